-- Root of the library: every model, spec, proof and property module and the driver's operations (DESIGN.md, Part I, says
-- what each is for).
import GoSQLXModel.Model.Batch
import GoSQLXModel.Model.CallGraph
import GoSQLXModel.Model.CharClass
import GoSQLXModel.Model.Depth
import GoSQLXModel.Model.ErrChain
import GoSQLXModel.Model.ExprGen
import GoSQLXModel.Model.ExprGrammar
import GoSQLXModel.Model.ExprParse
import GoSQLXModel.Model.Extract
import GoSQLXModel.Model.ExtractGen
import GoSQLXModel.Model.Fs
import GoSQLXModel.Model.Instance
import GoSQLXModel.Model.Lex
import GoSQLXModel.Model.LexGen
import GoSQLXModel.Model.Lint
import GoSQLXModel.Model.Loops
import GoSQLXModel.Model.LspServer
import GoSQLXModel.Model.LspText
import GoSQLXModel.Model.Metrics
import GoSQLXModel.Model.NameQuote
import GoSQLXModel.Model.Pool
import GoSQLXModel.Model.PosCache
import GoSQLXModel.Model.PrintExpr
import GoSQLXModel.Model.Scan
import GoSQLXModel.Model.Segments
import GoSQLXModel.Model.Tables
import GoSQLXModel.Model.Val
import GoSQLXModel.Model.Walk
import GoSQLXModel.Model.WalkVals
import GoSQLXModel.Gen.AstTables
import GoSQLXModel.Gen.ErrorSites
import GoSQLXModel.Gen.ExtractTables
import GoSQLXModel.Gen.FsCalls
import GoSQLXModel.Gen.Known
import GoSQLXModel.Gen.LexTables
import GoSQLXModel.Gen.Limits
import GoSQLXModel.Gen.LintKeywords
import GoSQLXModel.Gen.ParserGraph
import GoSQLXModel.Gen.ParserInstance
import GoSQLXModel.Gen.PrintPrec
import GoSQLXModel.Gen.Produced
import GoSQLXModel.Gen.ScanTables
import GoSQLXModel.Gen.SharedState
import GoSQLXModel.Gen.Structure
import GoSQLXModel.Gen.TokenizerGraph
import GoSQLXModel.Gen.TokenizerInstance
import GoSQLXModel.Gen.Unicode
import GoSQLXModel.Spec.ErrorSites
import GoSQLXModel.Spec.MetricsSpec
import GoSQLXModel.Proofs.StringEq
import GoSQLXModel.Proofs.LexProgress
import GoSQLXModel.Proofs.LexRun
import GoSQLXModel.Proofs.LexSpans
import GoSQLXModel.Proofs.LexEOF
import GoSQLXModel.Proofs.LexGrammar
import GoSQLXModel.Proofs.LexAscii
import GoSQLXModel.Proofs.LexSep
import GoSQLXModel.Proofs.LexReads
import GoSQLXModel.Proofs.LexSpell2
import GoSQLXModel.Proofs.LexSpell
import GoSQLXModel.Proofs.LexSpell3
import GoSQLXModel.Proofs.NameQuote
import GoSQLXModel.Proofs.LexGenBytes
import GoSQLXModel.Proofs.ExprProgress
import GoSQLXModel.Proofs.ExprTotal
import GoSQLXModel.Proofs.ExprMono
import GoSQLXModel.Proofs.ExprRoundTrip
import GoSQLXModel.Proofs.PrintRoundTrip
import GoSQLXModel.Proofs.LintLemmas
import GoSQLXModel.Proofs.LintL003
import GoSQLXModel.Proofs.LintOnlyBlanks
import GoSQLXModel.Proofs.LintLayout
import GoSQLXModel.Proofs.LintLex
import GoSQLXModel.Proofs.LintLex2
import GoSQLXModel.Proofs.BatchSpec
import GoSQLXModel.Proofs.CancelPrompt
import GoSQLXModel.Proofs.RecoveryPositions
import GoSQLXModel.Proofs.Depth
import GoSQLXModel.Proofs.ErrChainLaws
import GoSQLXModel.Proofs.FsMulti
import GoSQLXModel.Proofs.LspDocs
import GoSQLXModel.Proofs.MetricsProgress
import GoSQLXModel.Proofs.PoolType
import GoSQLXModel.Proofs.ScanThreshold
import GoSQLXModel.Props.C01
import GoSQLXModel.Props.C02
import GoSQLXModel.Props.C03
import GoSQLXModel.Props.C04
import GoSQLXModel.Props.C05
import GoSQLXModel.Props.C06
import GoSQLXModel.Props.C07
import GoSQLXModel.Props.C08
import GoSQLXModel.Props.C09
import GoSQLXModel.Props.C10
import GoSQLXModel.Props.C11
import GoSQLXModel.Props.C12
import GoSQLXModel.Props.C13
import GoSQLXModel.Props.C14
import GoSQLXModel.Props.C15
import GoSQLXModel.Props.C16
import GoSQLXModel.Props.C17
import GoSQLXModel.Props.C18
import GoSQLXModel.Props.C19
import GoSQLXModel.Props.C20
import GoSQLXModel.Driver.ExprOp
import GoSQLXModel.Driver.ExtractOp
import GoSQLXModel.Driver.LexOp
import GoSQLXModel.Driver.Ops
import GoSQLXModel.Driver.PrintOp
import GoSQLXModel.Driver.ScanOp
import GoSQLXModel.Driver.Sexp
