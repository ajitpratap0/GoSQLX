import GoSQLXModel.Props.C04
open GoSQLXModel
#print axioms Lex.nextToken_progress
#print axioms Lex.tokenize_total
#print axioms Lex.tokenize_single_eof
#print axioms Lex.tokenize_spans
#print axioms Lex.skipTriviaF_head
#print axioms Lex.longestOp_maximal
#print axioms Props.C04.gen_types_nonzero
#print axioms Props.C04.gen_at_operators
#print axioms Props.C04.gen_tables_ok
#print axioms Props.C04.gen_operators_prefix_closed
#print axioms Props.C04.gen_keywords_upper
#print axioms Props.C04.tokenizer_total
#print axioms Props.C04.exactly_one_eof
#print axioms Props.C04.tokens_in_source_order
#print axioms Props.C04.operator_maximal_munch
#print axioms Props.C04.triple_quote_counterexample
#print axioms Lex.tokenize_spell
#print axioms Lex.tokenize_layout_independent
#print axioms Props.C04.go_class_ascii_ok
#print axioms Props.C04.gen_punct_ok
#print axioms Props.C04.reference_lexemes_are_the_tokens
#print axioms Props.C04.layout_independent
#print axioms Lex.skipTriviaF_sep
#print axioms Lex.nextToken_word2
#print axioms Lex.nextToken_compound2
#print axioms Lex.nextToken_int2
#print axioms Lex.nextToken_num2
#print axioms Lex.nextToken_op2
#print axioms Lex.nextToken_str2
#print axioms Lex.nextToken_qid2
#print axioms Lex.nextToken_bq2
#print axioms Lex.tokenize_spell2
#print axioms Lex.tokenize_layout_independent2
#print axioms Lex.word_kind_case_insensitive
#print axioms Props.C04.reference_grammar_is_read_faithfully
#print axioms Props.C04.layout_independent2
#print axioms Props.C04.keyword_case_does_not_change_the_kind
#print axioms Props.C04.gen_operators_are_lexemes
#print axioms Props.C04.go_class_quotes
