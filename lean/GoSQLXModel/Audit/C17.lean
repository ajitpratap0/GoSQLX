import GoSQLXModel.Props.C17
open GoSQLXModel
#print axioms Lint.split_join
#print axioms Lint.join_split
#print axioms Lint.map_fix_idempotent
#print axioms Lint.collapseGo_idem
#print axioms Props.C17.fixL001_idempotent
#print axioms Props.C17.fixL002_idempotent
#print axioms Props.C17.fixL010_idempotent
#print axioms Props.C17.fixL001_relint_clean
#print axioms Props.C17.fixL010_local
#print axioms Props.C17.fixL010_line_count
#print axioms Props.C17.multiline_literal_counterexample
#print axioms Props.C17.quote_in_comment_counterexample
#print axioms Lint.fixL001_eq_trimC
#print axioms Lex.fixL001_bytes
#print axioms Lex.seq_trim
#print axioms Lex.fixL001_keeps_tokens
#print axioms Props.C17.gen_ops_no_ws
#print axioms Props.C17.l001_keeps_tokens
#print axioms Lint.fixL003_idempotent
#print axioms Props.C17.fixL003_idempotent
#print axioms Lint.fixL002_eq_expC
#print axioms Lex.fixL002_keeps_tokens
#print axioms Props.C17.l002_keeps_tokens
#print axioms Lex.fixL001_then_L002_keeps_tokens
#print axioms Props.C17.l001_then_l002_keep_tokens
#print axioms Props.C17.whitespace_fixers_touch_only_blanks
#print axioms Props.C17.whitespace_fixers_only_delete
