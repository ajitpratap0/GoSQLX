import GoSQLXModel.Props.C20
open GoSQLXModel
#print axioms Lex.lexLoop_total
#print axioms Lex.nextToken_progress
#print axioms Lex.locOf_succ
#print axioms Lex.advanceTo_spec
#print axioms Lex.runQueries_cost
#print axioms Props.C20.main_loop_iterations
#print axioms Props.C20.cache_invisible
#print axioms Props.C20.position_queries_linear
#print axioms Props.C20.tokens_at_most_bytes
