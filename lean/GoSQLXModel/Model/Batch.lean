/-! Batch calls (gosqlx.ParseMultiple / ValidateMultiple): a loop over the queries that stops at the first failure. -/
namespace GoSQLXModel.Batch

/-- the Go loop: results so far, or (index, error) of the first failing query -/
def batch {α β ε : Type} (f : α → Except ε β) : Nat → List α → List β → Except (Nat × ε) (List β)
  | _, [], acc => .ok acc
  | i, q :: qs, acc =>
    match f q with
    | .ok r => batch f (i+1) qs (acc ++ [r])
    | .error e => .error (i, e)

/-- C07, batch calls: a batch call succeeds exactly when every individual call succeeds, then
    returning exactly the individual results in order … -/
theorem batch_ok_iff {α β ε : Type} (f : α → Except ε β) (qs : List α) (i : Nat) (acc rs : List β) :
    batch f i qs acc = .ok rs ↔ ∃ ys, rs = acc ++ ys ∧ qs.map f = ys.map Except.ok := by
  induction qs generalizing i acc with
  | nil => simp [batch, eq_comm]
  | cons q qs ih =>
    rw [batch]
    cases hq : f q with
    | ok r =>
      simp only [ih, List.map_cons, hq, List.append_assoc, List.singleton_append]
      exact ⟨fun ⟨ys, h1, h2⟩ => ⟨r :: ys, h1, by rw [h2]; rfl⟩, fun ⟨ys, h1, h2⟩ => by
        obtain ⟨y, ys, rfl, hy, h3⟩ := List.map_eq_cons_iff.1 h2.symm
        cases hy
        exact ⟨ys, h1, h3.symm⟩⟩
    | error e =>
      simp only [List.map_cons, hq, reduceCtorEq, false_iff, not_exists, not_and]
      rintro (_ | ⟨y, ys⟩) _ h <;> cases h

/-- … and otherwise fails at the first failing index with that query's own error -/
theorem batch_err_first {α β ε : Type} (f : α → Except ε β) (qs : List α) (i : Nat) (acc : List β) (k : Nat) (e : ε)
    (h : batch f i qs acc = .error (k, e)) :
    ∃ pre q post, qs = pre ++ q :: post ∧ k = i + pre.length ∧ f q = .error e ∧ ∀ p ∈ pre, ∃ r, f p = .ok r := by
  induction qs generalizing i acc with
  | nil => cases h
  | cons q qs ih =>
    rw [batch] at h
    cases hq : f q with
    | ok r =>
      rw [hq] at h
      obtain ⟨pre, q', post, rfl, rfl, h3, h4⟩ := ih _ _ h
      exact ⟨q :: pre, q', post, rfl, by rw [List.length_cons]; omega, h3, List.forall_mem_cons.2 ⟨⟨r, hq⟩, h4⟩⟩
    | error e' =>
      rw [hq] at h
      cases h
      exact ⟨[], q, qs, rfl, rfl, hq, nofun⟩

end GoSQLXModel.Batch
