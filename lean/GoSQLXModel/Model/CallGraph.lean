/-!
# Call graphs with a depth-guard idiom, and the stack bound a ranking certificate yields

An edge is a static call site `(caller, callee, guarded)`.  `guarded = true` means the call site is
dominated by `depth++ ; defer depth-- ; if depth > Max { return error }`, so while the callee runs
the counter has been incremented (and was ≤ Max when the call was made).  A goroutine stack is a
*chain* of edges.  If `rank` strictly decreases along every unguarded edge (a certificate that the
unguarded sub-graph is acyclic), a chain from `s` with `g` guarded edges has length ≤ `g·(R+1) + rank s`, `R` the
largest rank, hence ≤ `(D+1)·(R+1)` when `g ≤ D`; with the counter bounded by `Max` this bounds the stack
independently of the input length.
-/
namespace GoSQLXModel.CallGraph

abbrev Edge := String × String × Bool   -- (src, dst, guarded)

def rankOf (r : List (String × Nat)) (f : String) : Nat :=
  match r.find? (fun e => e.1 == f) with
  | some e => e.2
  | none => 0

/-- offending edges: unguarded edges along which the rank does not strictly decrease -/
def checkRanking (edges : List Edge) (r : List (String × Nat)) : List Edge :=
  edges.filter fun e => !e.2.2 && !(rankOf r e.2.1 < rankOf r e.1)

def maxRank (r : List (String × Nat)) : Nat := r.foldl (fun m e => max m e.2) 0

/-- a chain of call edges: each edge starts where the previous one ended -/
def Chain : String → List Edge → Prop
  | _, [] => True
  | s, e :: rest => e.1 = s ∧ Chain e.2.1 rest

def guardedCount (p : List Edge) : Nat := (p.filter (·.2.2)).length

theorem le_foldl_max {α : Type} (g : α → Nat) (l : List α) (m : Nat) :
    m ≤ l.foldl (fun m e => max m (g e)) m ∧ ∀ e ∈ l, g e ≤ l.foldl (fun m e => max m (g e)) m := by
  induction l generalizing m with
  | nil => simp
  | cons a l ih =>
    have := ih (max m (g a))
    rw [List.foldl_cons, List.forall_mem_cons]
    exact ⟨Nat.le_trans (Nat.le_max_left ..) this.1, Nat.le_trans (Nat.le_max_right ..) this.1, this.2⟩

theorem rankOf_le_maxRank (r : List (String × Nat)) (f : String) : rankOf r f ≤ maxRank r := by
  unfold rankOf
  split
  · next e he => exact (le_foldl_max (·.2) r 0).2 e (List.mem_of_find?_eq_some he)
  · exact Nat.zero_le _

theorem ranking_bounds_chain (edges : List Edge) (r : List (String × Nat))
    (hr : checkRanking edges r = []) :
    ∀ (p : List Edge) (s : String), Chain s p → (∀ e ∈ p, e ∈ edges) →
      p.length ≤ guardedCount p * (maxRank r + 1) + rankOf r s := by
  intro p
  induction p with
  | nil => intro s _ _; exact Nat.zero_le _
  | cons e rest ih =>
    intro s ⟨hs, hrest⟩ hmem
    rw [List.forall_mem_cons] at hmem
    have ihr := ih e.2.1 hrest hmem.2
    cases hg : e.2.2 with
    | true =>
      -- a guarded edge pays for a fresh descent through the ranks
      have hle := rankOf_le_maxRank r e.2.1
      simp only [guardedCount, List.filter_cons, hg, if_true, List.length_cons, Nat.add_mul] at ihr ⊢
      omega
    | false =>
      have hdec : rankOf r e.2.1 < rankOf r e.1 := by simpa [hg] using List.filter_eq_nil_iff.mp hr e hmem.1
      simp only [guardedCount, List.filter_cons, hg, Bool.false_eq_true, if_false, List.length_cons, ← hs] at ihr ⊢
      omega

/-- **stack bound**: with at most `D` guarded edges on the stack (the depth counter is checked
    against the limit before any further call is made), a stack holds at most
    `(D+1)·(R+1)` frames below its entry point, whatever the input length. -/
theorem stack_bounded (edges : List Edge) (r : List (String × Nat)) (hr : checkRanking edges r = [])
    (p : List Edge) (s : String) (hc : Chain s p) (hmem : ∀ e ∈ p, e ∈ edges) (D : Nat)
    (hD : guardedCount p ≤ D) : p.length ≤ (D + 1) * (maxRank r + 1) := by
  have h := ranking_bounds_chain edges r hr p s hc hmem
  have h2 := rankOf_le_maxRank r s
  have : guardedCount p * (maxRank r + 1) ≤ D * (maxRank r + 1) := Nat.mul_le_mul_right _ hD
  rw [Nat.add_mul]
  omega

/-- conversely, an unguarded cycle admits arbitrarily long chains with no guarded edge:
    iterating a closed unguarded chain `c` from `s` to `s` -/
def iter (c : List Edge) : Nat → List Edge
  | 0 => []
  | n+1 => c ++ iter c n

def chainEnd : String → List Edge → String
  | s, [] => s
  | _, e :: rest => chainEnd e.2.1 rest

theorem chain_append {s : String} {a b : List Edge} (ha : Chain s a) (hb : Chain (chainEnd s a) b) :
    Chain s (a ++ b) := by
  induction a generalizing s with
  | nil => simpa [chainEnd] using hb
  | cons e rest ih =>
    obtain ⟨h1, h2⟩ := ha
    exact ⟨h1, ih h2 (by simpa [chainEnd] using hb)⟩

theorem unguarded_cycle_unbounded (c : List Edge) (s : String) (hc : Chain s c) (hclosed : chainEnd s c = s)
    (hne : c ≠ []) (hung : guardedCount c = 0) :
    ∀ n, Chain s (iter c n) ∧ guardedCount (iter c n) = 0 ∧ n ≤ (iter c n).length := by
  intro n
  induction n with
  | zero => exact ⟨trivial, rfl, Nat.le_refl _⟩
  | succ n ih =>
    have := List.length_pos_iff.mpr hne
    refine ⟨chain_append hc (by rw [hclosed]; exact ih.1), ?_, ?_⟩
    · simp only [iter, guardedCount, List.filter_append, List.length_append] at *
      omega
    · simp only [iter, List.length_append]
      omega

theorem mem_iter {c : List Edge} {e : Edge} : ∀ {n}, e ∈ iter c n → e ∈ c
  | 0, h => nomatch h
  | _ + 1, h => (List.mem_append.mp h).elim id mem_iter

end GoSQLXModel.CallGraph
