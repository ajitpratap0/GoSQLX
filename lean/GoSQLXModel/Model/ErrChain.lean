/-!
# Go error chains: `*errors.Error` (code + optional cause), `fmt.Errorf` with `%w` / `%v`,
`ParseError.Unwrap`, context errors — and `errors.Is` / `errors.As` over them.
-/
namespace GoSQLXModel.ErrChain

inductive Err where
  | ctx (deadline : Bool)                       -- context.Canceled / context.DeadlineExceeded
  | bare (msg : String)                         -- errors.New / fmt.Errorf without %w (also `%v` of anything)
  | structured (code : String)                  -- *errors.Error{Code} without a cause
  | caused (code : String) (cause : Err)        -- *errors.Error{Code, Cause: cause}
  | wrapW (msg : String) (inner : Err)          -- fmt.Errorf("...%w", inner)
  | parseError (idx : Nat) (inner : Err)        -- *parser.ParseError with Unwrap
  deriving DecidableEq, Repr

/-- one `Unwrap()` step -/
def unwrap : Err → Option Err
  | .ctx _ => none
  | .bare _ => none
  | .structured _ => none
  | .caused _ c => some c
  | .wrapW _ i => some i
  | .parseError _ i => some i

def depth : Err → Nat
  | .ctx _ => 0 | .bare _ => 0
  | .structured _ => 0
  | .caused _ c => depth c + 1
  | .wrapW _ i => depth i + 1
  | .parseError _ i => depth i + 1

/-- `errors.Is(e, target)` for comparable sentinel targets -/
def errIs (e target : Err) : Bool :=
  e == target ||
  match e with
  | .caused _ c => errIs c target
  | .wrapW _ i => errIs i target
  | .parseError _ i => errIs i target
  | _ => false

/-- `errors.As(e, **errors.Error)`: the code of the first structured error in the chain -/
def errAs : Err → Option String
  | .structured code => some code
  | .caused code _ => some code
  | .wrapW _ i => errAs i
  | .parseError _ i => errAs i
  | .ctx _ => none
  | .bare _ => none

/-- `fmt.Errorf("... %v", e)` / `fmt.Sprintf("%v", e)` inside a builder: the chain is dropped -/
def flatten (msg : String) (_e : Err) : Err := .bare msg

/-- a wrapper layer that keeps the chain -/
inductive Layer where
  | w (msg : String)                 -- fmt.Errorf("msg: %w", e)
  | cause (code : String)            -- errors.WrapError(code, ..., cause = e)
  | pe (idx : Nat)                   -- &ParseError{Cause: e}
  deriving Repr

def Layer.apply : Layer → Err → Err
  | .w m, e => .wrapW m e
  | .cause c, e => .caused c e
  | .pe i, e => .parseError i e

def applyLayers (ls : List Layer) (e : Err) : Err := ls.foldr Layer.apply e

theorem errIs_refl (e : Err) : errIs e e = true := by
  cases e <;> simp [errIs]

theorem errIs_layer (l : Layer) (e t : Err) (h : errIs e t = true) : errIs (l.apply e) t = true := by
  cases l <;> simp [Layer.apply, errIs, h]

theorem errIs_layers (ls : List Layer) {e t : Err} (h : errIs e t = true) : errIs (applyLayers ls e) t = true := by
  induction ls with
  | nil => exact h
  | cons l ls ih => exact errIs_layer l _ t ih

/-- Through any number of chain-keeping layers the cause stays reachable -/
theorem is_preserved (ls : List Layer) (e : Err) : errIs (applyLayers ls e) e = true := errIs_layers ls (errIs_refl e)

/-- a chain-keeping layer is never itself a context error: whether one is reachable is decided below the layers -/
theorem errIs_ctx_layers (ls : List Layer) (e : Err) (d : Bool) :
    errIs (applyLayers ls e) (.ctx d) = errIs e (.ctx d) := by
  induction ls with
  | nil => rfl
  | cons l ls ih =>
    rw [← ih]
    cases l <;> rw [applyLayers, List.foldr_cons, Layer.apply, errIs] <;> simp [applyLayers]

/-- flattening loses the context error, whatever wraps the flattened value afterwards -/
theorem flatten_loses_ctx (msg : String) (e : Err) (ls : List Layer) (d : Bool)
    (hl : ∀ l ∈ ls, match l with | .cause _ => True | .w _ => True | .pe _ => True) :
    errIs (applyLayers ls (flatten msg e)) (.ctx d) = false := by
  rw [errIs_ctx_layers]; simp [flatten, errIs]

end GoSQLXModel.ErrChain
