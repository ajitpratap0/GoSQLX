import GoSQLXModel.Model.WalkVals
/-!
# Metadata extraction (pkg/gosqlx/extract.go)

Every collector has the same shape: `collectFromNode(n)` first runs a per-type case — it records names read from
fields of `n` itself (`atNode`) and, for statements, pre-collects through an explicit expression walk
(`collectFromExpression`, which follows a fixed set of fields: `exprTable`, starting at `starts`) — and then recurses
into `n.Children()`.  Results are put in a map, i.e. they are a set.

`Collector.run` mirrors that double traversal.  `Collector.run_exact` says that for every tree covered by the Children()
table the result, as a set, is exactly `⋃ { atNode n | n a node of the tree }` — provided the explicit walk collects at a
node only what the node-level case collects there (`hsub`).  That side condition is what failed for
`ExtractFunctions` before the repair (no node-level `*ast.FunctionCall` case).
-/
namespace GoSQLXModel

/-! ## reading values at a field path (lists are flattened on the way) -/
mutual
def Val.at (p : List String) : Val → List Val
  | .list xs => xs.at p
  | .node ty fs => (match p with | [] => [.node ty fs] | f :: rest => fs.at f rest)
  | .struct fs => (match p with | [] => [.struct fs] | f :: rest => fs.at f rest)
  | .str s => (match p with | [] => [.str s] | _ => [])
  | .int n => (match p with | [] => [.int n] | _ => [])
  | .bool b => (match p with | [] => [.bool b] | _ => [])
  | .nil => []
def Vals.at (p : List String) : Vals → List Val
  | .nil => [] | .cons v vs => v.at p ++ vs.at p
def Fields.at (f : String) (rest : List String) : Fields → List Val
  | .nil => []
  | .cons n v fs => if n == f then v.at rest else fs.at f rest
end

-- everything read at a path is part of the value: its nodes are nodes of the value
theorem Val.at_sub : ∀ (p : List String) (v e m : Val), e ∈ v.at p → m ∈ e.nodeVals → m ∈ v.nodeVals := by
  intro p v e m he hm
  induction v using Val.induct3 generalizing p with
  | nil | lnil => cases he
  | str | int | bool | snil =>
    cases p with
    | nil => exact List.mem_singleton.1 he ▸ hm
    | cons => cases he
  | node ty fs ih =>
    cases p with
    | nil => exact List.mem_singleton.1 he ▸ hm
    | cons f rest => exact List.mem_cons_of_mem _ (ih (f :: rest) he)
  | scons n v fs ihv ihfs =>
    cases p with
    | nil => exact List.mem_singleton.1 he ▸ hm
    | cons f rest =>
      simp only [Val.at, Fields.at] at he
      split at he
      · exact List.mem_append_left _ (ihv rest he)
      · exact List.mem_append_right _ (ihfs (f :: rest) he)
  | lcons v vs ihv ihvs => exact List.mem_append.2 ((List.mem_append.1 he).imp (ihv p) (ihvs p))
theorem Fields.at_sub : ∀ (f : String) (rest : List String) (fs : Fields) (e m : Val),
    e ∈ fs.at f rest → m ∈ e.nodeVals → m ∈ fs.nodeVals :=
  fun f rest fs => Val.at_sub (f :: rest) (.struct fs)

namespace Extract

def isNodeTy (ty : String) : Val → Bool
  | .node t _ => t == ty
  | _ => false

def fieldOf (fs : Fields) (k : String) : Val := (fs.get? k).getD .nil
def strOf : Val → String | .str s => s | _ => ""
def nonEmptyStr : Val → Option String
  | .str s => if s != "" then some s else none
  | _ => none

/-- duplicate-free list with the same members (the collectors' map) -/
def dedup {α} [DecidableEq α] : List α → List α
  | [] => []
  | x :: xs => if x ∈ dedup xs then dedup xs else x :: dedup xs

theorem mem_dedup {α} [DecidableEq α] (x : α) (l : List α) : x ∈ dedup l ↔ x ∈ l := by
  fun_induction dedup l <;> grind

theorem nodup_dedup {α} [DecidableEq α] (l : List α) : (dedup l).Nodup := by
  fun_induction dedup l with
  | case1 => exact .nil
  | case2 x xs h ih => exact ih
  | case3 x xs h ih => exact List.nodup_cons.2 ⟨h, ih⟩

/-- one collector of extract.go -/
structure Collector (α : Type) where
  /-- what the per-type case records from the node's own fields -/
  atNode : Val → List α
  /-- (node type, path): where the per-type case starts its explicit expression walk -/
  starts : List (String × List String)
  /-- the fields `collectFromExpression` follows, per node type -/
  exprTable : ChildTable
  /-- what `collectFromExpression` records at a node it visits -/
  inExpr : Val → List α

/-- everything `collectFromNode(n)` records before recursing into Children() -/
def Collector.at {α} (c : Collector α) (n : Val) : List α :=
  c.atNode n ++ c.starts.flatMap fun sp =>
    if isNodeTy sp.1 n then (n.at sp.2).flatMap fun e => (e.walkVals c.exprTable none).flatMap c.inExpr else []

/-- the whole extraction: per-type case at every node the Children() recursion reaches, then the map -/
def Collector.run {α} [DecidableEq α] (c : Collector α) (t : ChildTable) (tree : Val) : List α :=
  dedup ((tree.walkVals t none).flatMap c.at)

/-- the specification: the names the node-level reading yields at each node of the tree -/
def Collector.spec {α} (c : Collector α) (tree : Val) : List α := tree.nodeVals.flatMap c.atNode

/-- the explicit walk never leaves the node: whatever it records is recorded at a descendant node -/
theorem Collector.at_sound {α} (c : Collector α) (hsub : ∀ n x, x ∈ c.inExpr n → x ∈ c.atNode n)
    (n : Val) (hn : ∃ ty fs, n = .node ty fs) (x : α) (hx : x ∈ c.at n) : ∃ m ∈ n.nodeVals, x ∈ c.atNode m := by
  obtain ⟨ty, fs, rfl⟩ := hn
  simp only [Collector.at, List.mem_append, List.mem_flatMap] at hx
  rcases hx with h | ⟨sp, _, h⟩
  · exact ⟨_, List.mem_cons_self, h⟩
  · split at h
    · obtain ⟨e, he, h⟩ := List.mem_flatMap.1 h
      obtain ⟨m, hm, hxm⟩ := List.mem_flatMap.1 h
      exact ⟨m, Val.at_sub sp.2 _ e m he ((Val.walkVals_sublist c.exprTable none e).subset hm), hsub m x hxm⟩
    · cases h

/-- without the coverage hypothesis the result is still never more than the specification -/
theorem Collector.run_sound {α} [DecidableEq α] (c : Collector α) (t : ChildTable) (tree : Val)
    (hsub : ∀ n x, x ∈ c.inExpr n → x ∈ c.atNode n) (x : α) (h : x ∈ c.run t tree) : x ∈ c.spec tree := by
  obtain ⟨n, hn, hx⟩ := List.mem_flatMap.1 ((mem_dedup x _).1 h)
  have hn' := (Val.walkVals_sublist t none tree).subset hn
  obtain ⟨m, hm, hxm⟩ := c.at_sound hsub n (Val.nodeVals_isNode tree n hn') x hx
  exact List.mem_flatMap.2 ⟨m, Val.nodeVals_trans tree n m hn' hm, hxm⟩

/-- **exactness**: for every tree covered by the Children() table, the extraction result is, as a set, exactly the
    names read at the nodes of the tree — nothing missed (coverage), nothing extra (the explicit walk stays inside
    the tree and `hsub`), whatever the clause, nesting depth or order. -/
theorem Collector.run_exact {α} [DecidableEq α] (c : Collector α) (t : ChildTable) (tree : Val)
    (hsub : ∀ n x, x ∈ c.inExpr n → x ∈ c.atNode n) (hcov : tree.covered t none = true) (x : α) :
    x ∈ c.run t tree ↔ x ∈ c.spec tree := by
  refine ⟨c.run_sound t tree hsub x, fun h => ?_⟩
  unfold Collector.run
  rw [mem_dedup, Val.walkVals_complete t none tree hcov]
  obtain ⟨n, hn, hx⟩ := List.mem_flatMap.1 h
  exact List.mem_flatMap.2 ⟨n, hn, List.mem_append_left _ hx⟩

theorem Collector.run_nodup {α} [DecidableEq α] (c : Collector α) (t : ChildTable) (tree : Val) :
    (c.run t tree).Nodup := nodup_dedup _


/-! ## the collectors as tables (regenerated from extract.go into Gen/ExtractTables.lean) -/

/-- one case of a collector's type switch:
    (node type, records — each a list of argument paths —, guard texts, collectFromExpression starts) -/
abbrev Case := String × List (List (List String)) × List String × List (List String)

/-- what one `m[<path>] = true` / `addTable(<path>)` / `addColumn(<p1>, <p2>)` records at node `n` -/
def evalRecord (n : Val) : List (List String) → List (List String)
  | [p] => (n.at p).filterMap fun v => match v with | .str s => some [s] | _ => none
  | ps => [ps.map fun p => match n.at p with | .str s :: _ => s | _ => ""]

def recordsAt (cases : List Case) (guard : List String → Bool) (n : Val) : List (List String) :=
  cases.flatMap fun c => if isNodeTy c.1 n then (c.2.1.flatMap (evalRecord n)).filter guard else []

def startsOf (cases : List Case) : List (String × List String) :=
  cases.flatMap fun c => c.2.2.2.map fun p => (c.1, p)

/-- the fields `collectFromExpression` follows; a chain through a by-value Node field (`when.Condition` for
    `WhenClauses []WhenClause`) is split at that node type (`nodeElem ty f` = its element type when it is a Node) -/
def exprEntries (nodeElem : String → String → Option String) (cases : List Case) : List (String × String) :=
  cases.flatMap fun c => c.2.2.2.flatMap fun p =>
    match p with
    | [] => []
    | [f] => [(c.1, f)]
    | f :: rest =>
      match nodeElem c.1 f with
      | some el => [(c.1, f), (el, ".".intercalate rest)]
      | none => [(c.1, ".".intercalate p)]

def exprTableOf (nodeElem : String → String → Option String) (cases : List Case) : ChildTable :=
  fun ty => ((exprEntries nodeElem cases).filter (·.1 == ty)).map (·.2)

def mkCollector (nodeCases exprCases : List Case) (guard : List String → Bool)
    (nodeElem : String → String → Option String) : Collector (List String) :=
  { atNode := recordsAt nodeCases guard, starts := startsOf nodeCases,
    exprTable := exprTableOf nodeElem exprCases, inExpr := recordsAt exprCases guard }

/-- table condition for `hsub`: whatever the expression walk records at a node type, the node-level case of that
    type records too -/
def exprRecordsCovered (nodeCases exprCases : List Case) : Bool :=
  exprCases.all fun c => c.2.1.all fun r => nodeCases.any fun c' => c'.1 == c.1 && c'.2.1.contains r

theorem recordsAt_sub (nodeCases exprCases : List Case) (guard : List String → Bool)
    (h : exprRecordsCovered nodeCases exprCases = true) (n : Val) (x : List String)
    (hx : x ∈ recordsAt exprCases guard n) : x ∈ recordsAt nodeCases guard n := by
  simp only [exprRecordsCovered, List.all_eq_true, List.any_eq_true, Bool.and_eq_true, beq_iff_eq,
    List.contains_iff_mem] at h
  simp only [recordsAt, List.mem_flatMap] at hx ⊢
  obtain ⟨c, hc, hx⟩ := hx
  split at hx
  · next hty =>
    obtain ⟨⟨r, hr, hxr⟩, hg⟩ : (∃ r ∈ c.2.1, x ∈ evalRecord n r) ∧ guard x = true := by
      simpa only [List.mem_filter, List.mem_flatMap] using hx
    obtain ⟨c', hc', hcc, hr'⟩ := h c hc r hr
    exact ⟨c', hc', by rw [hcc, if_pos hty]; exact List.mem_filter.2 ⟨List.mem_flatMap.2 ⟨r, hr', hxr⟩, hg⟩⟩
  · cases hx

/-- **exactness of a table-driven collector** on covered trees, from the table condition -/
theorem mkCollector_exact (nodeCases exprCases : List Case) (guard : List String → Bool)
    (nodeElem : String → String → Option String) (t : ChildTable) (tree : Val)
    (h : exprRecordsCovered nodeCases exprCases = true) (hcov : tree.covered t none = true) (x : List String) :
    x ∈ (mkCollector nodeCases exprCases guard nodeElem).run t tree ↔
      x ∈ tree.nodeVals.flatMap (recordsAt nodeCases guard) :=
  Collector.run_exact _ t tree (recordsAt_sub nodeCases exprCases guard h) hcov x

theorem mkCollector_sound (nodeCases exprCases : List Case) (guard : List String → Bool)
    (nodeElem : String → String → Option String) (t : ChildTable) (tree : Val)
    (h : exprRecordsCovered nodeCases exprCases = true) (x : List String)
    (hx : x ∈ (mkCollector nodeCases exprCases guard nodeElem).run t tree) :
    x ∈ tree.nodeVals.flatMap (recordsAt nodeCases guard) :=
  Collector.run_sound _ t tree (recordsAt_sub nodeCases exprCases guard h) x hx

/-- guards of extract.go -/
def guardNonEmpty (x : List String) : Bool := x.getLast?.getD "" != ""
def guardColumn (x : List String) : Bool := let n := x.getLast?.getD ""; n != "" && n != "*"

/-- `qualifiedTableCollector.addTable`: schema / middle / name by the number of dot-separated parts -/
def splitQualified (s : String) : List String :=
  match s.splitOn "." with
  | [a] => ["", "", a]
  | [a, b] => [a, "", b]
  | [a, b, c] => [a, b, c]
  | _ => ["", "", s]

end Extract
end GoSQLXModel
