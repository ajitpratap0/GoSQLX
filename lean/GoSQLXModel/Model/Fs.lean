/-!
# Abstract file system with crashes, and the two in-place write protocols

A disk maps paths to optional contents.  A process is a list of operations; a *crash* stops it after any
number of completed operations, and a `write` that is in progress may have persisted any prefix of its bytes.
(For the target the same model covers a failing write: the failure happens after some prefix, and all
`replaceFileAtomically` does then is close and remove its temporary file.)
-/
namespace GoSQLXModel.Fs

abbrev Bytes := List UInt8
abbrev Disk := String → Option Bytes

inductive Op where
  | create (p : String)              -- os.CreateTemp / O_CREATE: empty file
  | truncate (p : String)            -- O_TRUNC on an existing path
  | write (p : String) (bs : Bytes)  -- append bytes
  | sync (p : String) | close (p : String) | chmod (p : String)
  | rename (src dst : String)        -- atomic
  | remove (p : String)
  deriving Repr

def upd (d : Disk) (p : String) (v : Option Bytes) : Disk := fun q => if q = p then v else d q

def exec (d : Disk) : Op → Disk
  | .create p => upd d p (some [])
  | .truncate p => upd d p (some [])
  | .write p bs => upd d p (some ((d p).getD [] ++ bs))
  | .sync _ => d | .close _ => d | .chmod _ => d
  | .rename s t => upd (upd d t (d s)) s none
  | .remove p => upd d p none

def run (d : Disk) (ops : List Op) : Disk := ops.foldl exec d

/-- the disks a crash can leave: all ops before index `k` done, and if op `k` is a write, any prefix of it -/
def crashStates (d : Disk) (ops : List Op) : List Disk :=
  (List.range (ops.length + 1)).flatMap fun k =>
    let done := run d (ops.take k)
    match ops[k]? with
    | some (.write p bs) => (List.range (bs.length + 1)).map fun j => exec done (.write p (bs.take j))
    | _ => [done]

/-- protocol A (the repaired code): temp file in the same directory, write, sync, close, chmod, rename -/
def atomicReplace (target tmp : String) (new : Bytes) : List Op :=
  [.create tmp, .write tmp new, .sync tmp, .close tmp, .chmod tmp, .rename tmp target]

/-- protocol B (os.WriteFile on the original path): truncate, write -/
def truncateWrite (target : String) (new : Bytes) : List Op := [.truncate target, .write target new, .close target]

theorem run_append (d : Disk) (a b : List Op) : run d (a ++ b) = run (run d a) b := by
  simp [run, List.foldl_append]

/-- the disks a crash during the first operation can leave -/
def pre (d : Disk) : Op → List Disk
  | .write p bs => (List.range (bs.length + 1)).map fun j => exec d (.write p (bs.take j))
  | _ => [d]

theorem run_cons (d : Disk) (op : Op) (ops : List Op) : run d (op :: ops) = run (exec d op) ops := rfl

theorem crashStates_cons (d : Disk) (op : Op) (ops : List Op) :
    crashStates d (op :: ops) = pre d op ++ crashStates (exec d op) ops := by
  unfold crashStates
  rw [List.length_cons, List.range_succ_eq_map, List.flatMap_cons, List.flatMap_map]
  simp only [List.take_zero, List.getElem?_cons_zero, List.take_succ_cons, List.getElem?_cons_succ, run_cons, Nat.succ_eq_add_one]
  congr 1
  cases op <;> rfl

theorem mem_crashStates_cons (d : Disk) (op : Op) (ops : List Op) (s : Disk) :
    s ∈ crashStates d (op :: ops) ↔ s ∈ pre d op ∨ s ∈ crashStates (exec d op) ops := by
  rw [crashStates_cons, List.mem_append]

theorem mem_crashStates_nil (d s : Disk) : s ∈ crashStates d [] ↔ s = d := by
  simp [crashStates, run]

def touches : Op → List String
  | .create p => [p] | .truncate p => [p] | .write p _ => [p]
  | .sync _ => [] | .close _ => [] | .chmod _ => []
  | .rename s t => [s, t] | .remove p => [p]

theorem exec_frame (d : Disk) (op : Op) (q : String) (h : q ∉ touches op) : exec d op q = d q := by
  cases op <;> simp [touches] at h <;> simp [exec, upd, h]

theorem pre_frame (d : Disk) (op : Op) (q : String) (h : q ∉ touches op) : ∀ s ∈ pre d op, s q = d q := by
  intro s hs
  cases op with
  | write p bs =>
    simp only [pre, List.mem_map, List.mem_range] at hs
    obtain ⟨j, _, rfl⟩ := hs
    exact exec_frame d _ q (by simpa [touches] using h)
  | _ => simp [pre] at hs; subst hs; rfl

theorem run_frame (q : String) : ∀ (ops : List Op) (d : Disk), (∀ op ∈ ops, q ∉ touches op) → run d ops q = d q
  | [], _, _ => rfl
  | op :: ops, d, h => by
    rw [List.forall_mem_cons] at h
    rw [run_cons, run_frame q ops _ h.2, exec_frame d op q h.1]

/-- **frame rule**: a path that no operation of the process names is the same in every crash state -/
theorem crash_frame (q : String) : ∀ (ops : List Op) (d : Disk), (∀ op ∈ ops, q ∉ touches op) →
    ∀ s ∈ crashStates d ops, s q = d q
  | [], d, _, s, hs => by rw [(mem_crashStates_nil d s).1 hs]
  | op :: ops, d, h, s, hs => by
    rw [List.forall_mem_cons] at h
    rcases (mem_crashStates_cons d op ops s).1 hs with h1 | h1
    · exact pre_frame d op q h.1 s h1
    · rw [crash_frame q ops _ h.2 s h1, exec_frame d op q h.1]

theorem mem_crashStates_append (b : List Op) (s : Disk) : ∀ (a : List Op) (d : Disk),
    s ∈ crashStates d (a ++ b) → s ∈ crashStates d a ∨ s ∈ crashStates (run d a) b
  | [], _, h => Or.inr h
  | op :: a, d, h => by
    rw [mem_crashStates_cons, run_cons, or_assoc]
    exact ((mem_crashStates_cons ..).1 h).imp_right (mem_crashStates_append b s a _)

/-- Whatever the crash point (after any operation, in the middle of the write after
    any number of bytes), the target holds the complete old or the complete new content. -/
theorem atomic_replace_safe (d : Disk) (target tmp : String) (new : Bytes) (hne : tmp ≠ target) :
    ∀ s ∈ crashStates d (atomicReplace target tmp new), s target = d target ∨ s target = some new := by
  intro s hs
  -- nothing before the rename names the target; the rename is one step
  let pre : List Op := [.create tmp, .write tmp new, .sync tmp, .close tmp, .chmod tmp]
  have hfr : ∀ op ∈ pre, target ∉ touches op := by
    intro op hop
    simp only [pre, List.mem_cons, List.not_mem_nil, or_false] at hop
    rcases hop with rfl | rfl | rfl | rfl | rfl <;> simp [touches, hne.symm]
  rcases mem_crashStates_append [.rename tmp target] s pre d hs with h | h
  · exact .inl (crash_frame target _ d hfr s h)
  · rcases (mem_crashStates_cons _ _ _ s).1 h with h | h
    · rw [List.mem_singleton.1 h]; exact .inl (run_frame target _ d hfr)
    · rw [(mem_crashStates_nil _ s).1 h]; exact .inr (by simp [pre, run, exec, upd, hne.symm])

theorem atomic_replace_done (d : Disk) (target tmp : String) (new : Bytes) (hne : tmp ≠ target) :
    run d (atomicReplace target tmp new) target = some new ∧ run d (atomicReplace target tmp new) tmp = none := by
  simp [run, atomicReplace, exec, upd, hne.symm]

/-- With truncate-then-write there is a crash point that leaves neither the old
    nor the new content, as soon as both are non-empty -/
theorem truncate_write_unsafe (d : Disk) (target : String) (old new : Bytes) (hold : d target = some old)
    (ho : old ≠ []) (hn : new ≠ []) :
    ∃ s ∈ crashStates d (truncateWrite target new), s target ≠ some old ∧ s target ≠ some new := by
  -- the crash point: truncated, no byte of the write persisted yet
  refine ⟨exec (exec d (.truncate target)) (.write target (new.take 0)), ?_, ?_⟩
  · exact (mem_crashStates_cons ..).2 (.inr ((mem_crashStates_cons ..).2
      (.inl (List.mem_map.2 ⟨0, List.mem_range.2 (Nat.succ_pos _), rfl⟩))))
  · simp only [exec, upd, List.take_zero, List.append_nil, if_true, Option.getD_some, ne_eq, Option.some.injEq]
    exact ⟨fun h => ho h.symm, fun h => hn h.symm⟩

/-- check-only modes: an operation list that writes nothing leaves every path as it was -/
def isReadOnly : List Op → Bool
  | [] => true
  | .sync _ :: r => isReadOnly r
  | .close _ :: r => isReadOnly r
  | _ :: _ => false

theorem read_only_preserves (d : Disk) (ops : List Op) (h : isReadOnly ops = true) : run d ops = d := by
  induction ops generalizing d with
  | nil => rfl
  | cons o r ih =>
    cases o <;> simp [isReadOnly] at h <;> simpa [run, exec] using ih d h

end GoSQLXModel.Fs
