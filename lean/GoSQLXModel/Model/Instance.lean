/-!
# Reusable instances (Parser, Tokenizer) as field records

A state maps field names to abstract values.  A *call* of entry point `e` with input `i` first
overwrites the fields in `writes e` with values that depend only on `(e, i)`, then runs: its
observable outcome `out` and its final state `post` are functions of the entered state.
The table-level facts are
* `reads`  : the fields the code may read (effective: fields read only under a validity flag that the
  entry point clears are not counted),
* `stable` : fields every call leaves at the value they had on entry (the depth counter — every
  `depth++` has its deferred `depth--`; the context — cleared by a defer; holder configuration —
  written only by option/setter functions).
`history_independent` is the generic theorem: if every field read is overwritten by the entry
point or stable, the outcome of a probe call after *any* history equals its outcome on the state
the history started from.
-/
namespace GoSQLXModel.Instance

abbrev Field := String
abbrev St := Field → Nat

structure Sem where
  /-- value assigned to field `f` by entry `e` from input `i` before any read -/
  init : String → Nat → Field → Nat
  out : String → Nat → St → Nat
  post : String → Nat → St → St

structure Table where
  reads : List Field
  stable : List Field
  writes : String → List Field

def enter (T : Table) (S : Sem) (e : String) (i : Nat) (s : St) : St :=
  fun f => if (T.writes e).contains f then S.init e i f else s f

def call (T : Table) (S : Sem) (s : St) (c : String × Nat) : St :=
  S.post c.1 c.2 (enter T S c.1 c.2 s)

def run (T : Table) (S : Sem) (s : St) (h : List (String × Nat)) : St := h.foldl (call T S) s

def outcome (T : Table) (S : Sem) (s : St) (c : String × Nat) : Nat :=
  S.out c.1 c.2 (enter T S c.1 c.2 s)

/-- table obligation: every field read is overwritten by the entry point or stable -/
def Covered (T : Table) (entries : List String) : Prop :=
  ∀ e ∈ entries, ∀ f ∈ T.reads, f ∈ T.writes e ∨ f ∈ T.stable

/-- semantic reading of `reads`: the outcome depends on the entered state only through `reads` -/
def ReadsOnly (T : Table) (S : Sem) : Prop :=
  ∀ e i (s s' : St), (∀ f ∈ T.reads, s f = s' f) → S.out e i s = S.out e i s'

/-- semantic reading of `stable`, relative to the state `s0` the history started from:
    a call entered with the stable fields at their `s0` values leaves them there -/
def Restores (T : Table) (S : Sem) (entries : List String) (s0 : St) : Prop :=
  ∀ e ∈ entries, ∀ i (s : St), (∀ f ∈ T.stable, s f = s0 f) →
    ∀ f ∈ T.stable, S.post e i (enter T S e i s) f = s0 f

theorem run_stable (T : Table) (S : Sem) (entries : List String) (s0 : St)
    (hr : Restores T S entries s0) :
    ∀ (h : List (String × Nat)) (s : St), (∀ c ∈ h, c.1 ∈ entries) → (∀ f ∈ T.stable, s f = s0 f) →
      ∀ f ∈ T.stable, run T S s h f = s0 f := by
  intro h
  induction h with
  | nil => exact fun s _ hs => hs
  | cons c h ih =>
    intro s hmem hs
    rw [List.forall_mem_cons] at hmem
    exact ih _ hmem.2 (hr c.1 hmem.1 c.2 s hs)

/-- The outcome of a probe call does not depend on what the
    instance did before: for every history `h` of calls and every probe `c`,
    `outcome (run h s0) c = outcome s0 c`. -/
theorem history_independent (T : Table) (S : Sem) (entries : List String) (s0 : St)
    (hc : Covered T entries) (hro : ReadsOnly T S) (hr : Restores T S entries s0)
    (h : List (String × Nat)) (hh : ∀ c ∈ h, c.1 ∈ entries) (c : String × Nat) (hce : c.1 ∈ entries) :
    outcome T S (run T S s0 h) c = outcome T S s0 c := by
  have hst := run_stable T S entries s0 hr h s0 hh (fun _ _ => rfl)
  refine hro _ _ _ _ fun f hf => ?_
  unfold enter
  split
  · rfl
  · next hw => exact hst f ((hc c.1 hce f hf).resolve_left (by simpa using hw))

/-- `Reset` / `Release` / pool-put: assign the listed fields their constructor value (0) -/
def reset (fields : List Field) (s : St) : St := fun f => if fields.contains f then 0 else s f

theorem reset_fresh (all fields : List Field) (h : ∀ f ∈ all, f ∈ fields) (s : St) :
    ∀ f ∈ all, reset fields s f = 0 := by
  intro f hf
  simp [reset, h f hf]

def lookup (t : List (String × List String)) (k : String) : List String :=
  match t.find? (fun e => e.1 == k) with
  | some e => e.2
  | none => []

/-- offenders: (entry, field) read but neither overwritten by the entry point, nor stable, nor dead
    behind a validity flag the entry point clears -/
def coverOffenders (entries : List (String × List String)) (reads stable : List String)
    (guarded : List (String × String)) : List (String × String) :=
  entries.flatMap fun (e, ws) =>
    (reads.filter fun f => !(ws.contains f || stable.contains f ||
      guarded.any (fun g => g.1 == f && ws.contains g.2))).map fun f => (e, f)

def resetOffenders (resets : List (String × List String)) (all : List String) : List (String × String) :=
  resets.flatMap fun (r, fs) => (all.filter fun f => !fs.contains f).map fun f => (r, f)

theorem coverOffenders_nil {entries reads stable} (h : coverOffenders entries reads stable [] = []) :
    ∀ e ∈ entries, ∀ f ∈ reads, f ∈ e.2 ∨ f ∈ stable := by
  intro e he f hf
  simpa [Classical.or_iff_not_imp_left] using
    List.filter_eq_nil_iff.mp (List.map_eq_nil_iff.mp (List.flatMap_eq_nil_iff.mp h e he)) f hf

/-- the decidable check yields the obligation of `history_independent` for the table whose `writes` looks an entry
    point up by name (so each name must find its own row) -/
theorem covered_of_offenders {entries reads stable} (h : coverOffenders entries reads stable [] = [])
    (hl : ∀ en ∈ entries, lookup entries en.1 = en.2) :
    Covered { reads := reads, stable := stable, writes := lookup entries } (entries.map (·.1)) := by
  intro e he f hf
  obtain ⟨en, hen, rfl⟩ := List.mem_map.mp he
  show f ∈ lookup entries en.1 ∨ f ∈ stable
  rw [hl en hen]
  exact coverOffenders_nil h en hen f hf

end GoSQLXModel.Instance
