import GoSQLXModel.Model.CharClass
/-!
# The tokenizer (pkg/sql/tokenizer/tokenizer.go) over bytes

The input is a byte list; runes are decoded exactly as Go's `utf8.DecodeRune` does (invalid bytes decode to
U+FFFD of width 1).  A reader takes the *remaining suffix* and returns the token and the new suffix; byte offsets
are `input.length - rest.length`; line/column are a pure function of the input and an offset (`locOf`, the meaning
of `toSQLPosition`).  Keyword, compound-keyword and operator tables are parameters (`Tables`), instantiated with the
tables regenerated from the source (`Gen/LexTables.lean`).  The main loop carries fuel; `Proofs/LexRun.lean`
shows `input.length + 1` always suffices (every reader strictly shortens the suffix, `Proofs/LexProgress.lean`).
-/
namespace GoSQLXModel.Lex

abbrev Bytes := List UInt8

/-! ## UTF-8 as in Go -/
def runeError : Nat := 0xFFFD

def isCont (b : UInt8) : Bool := 0x80 ≤ b.toNat && b.toNat ≤ 0xBF

/-- `utf8.DecodeRune`: (rune, width); empty input gives (RuneError, 0) -/
def decodeRune : Bytes → Nat × Nat
  | [] => (runeError, 0)
  | b0 :: rest =>
    let n0 := b0.toNat
    if n0 < 0x80 then (n0, 1)
    else if n0 < 0xC2 then (runeError, 1)
    else if n0 < 0xE0 then
      match rest with
      | b1 :: _ => if isCont b1 then ((n0 % 32) * 64 + (b1.toNat % 64), 2) else (runeError, 1)
      | _ => (runeError, 1)
    else if n0 < 0xF0 then
      match rest with
      | b1 :: b2 :: _ =>
        let lo := if n0 == 0xE0 then 0xA0 else 0x80
        let hi := if n0 == 0xED then 0x9F else 0xBF
        if lo ≤ b1.toNat && b1.toNat ≤ hi && isCont b2 then
          ((n0 % 16) * 4096 + (b1.toNat % 64) * 64 + (b2.toNat % 64), 3)
        else (runeError, 1)
      | _ => (runeError, 1)
    else if n0 < 0xF5 then
      match rest with
      | b1 :: b2 :: b3 :: _ =>
        let lo := if n0 == 0xF0 then 0x90 else 0x80
        let hi := if n0 == 0xF4 then 0x8F else 0xBF
        if lo ≤ b1.toNat && b1.toNat ≤ hi && isCont b2 && isCont b3 then
          ((n0 % 8) * 262144 + (b1.toNat % 64) * 4096 + (b2.toNat % 64) * 64 + (b3.toNat % 64), 4)
        else (runeError, 1)
      | _ => (runeError, 1)
    else (runeError, 1)

/-- `utf8.AppendRune` (as used by `bytes.Buffer.WriteRune`) -/
def encodeRune (r : Nat) : Bytes :=
  let r := if r > 0x10FFFF || (0xD800 ≤ r && r ≤ 0xDFFF) then runeError else r
  if r < 0x80 then [UInt8.ofNat r]
  else if r < 0x800 then [UInt8.ofNat (0xC0 + r / 64), UInt8.ofNat (0x80 + r % 64)]
  else if r < 0x10000 then [UInt8.ofNat (0xE0 + r / 4096), UInt8.ofNat (0x80 + (r / 64) % 64), UInt8.ofNat (0x80 + r % 64)]
  else [UInt8.ofNat (0xF0 + r / 262144), UInt8.ofNat (0x80 + (r / 4096) % 64), UInt8.ofNat (0x80 + (r / 64) % 64),
        UInt8.ofNat (0x80 + r % 64)]

/-- first rune and the suffix after it (none at end of input) -/
def nextRune (bs : Bytes) : Option (Nat × Bytes) :=
  match bs with
  | [] => none
  | _ :: _ => let d := decodeRune bs; some (d.1, bs.drop (max d.2 1))

/-! ## character classes (tokenizer/unicode.go) -/
def isLetterR (cls : CharClass) (r : Nat) : Bool := cls.isLetter (Char.ofNat r)
def isIdentStart (cls : CharClass) (r : Nat) : Bool := isLetterR cls r || r == 95
def isIdentChar (cls : CharClass) (r : Nat) : Bool :=
  let c := Char.ofNat r
  cls.isLetter c || cls.isDigit c || r == 95 || cls.isMark c || cls.isConnector c
def isDigitR (r : Nat) : Bool := 48 ≤ r && r ≤ 57
def normalizeQuote (r : Nat) : Nat :=
  if r == 0x2018 || r == 0x2019 || r == 0xAB || r == 0xBB then 39
  else if r == 0x201C || r == 0x201D then 34 else r
def isStringQuoteStart (r : Nat) : Bool := r == 39 || r == 0x2018 || r == 0x2019 || r == 0xAB || r == 0xBB

/-- drop runes while `p` holds (fuel = length suffices) -/
def dropRunesF (p : Nat → Bool) : Nat → Bytes → Bytes
  | 0, bs => bs
  | fuel+1, bs =>
    match nextRune bs with
    | none => bs
    | some (r, rest) => if p r then dropRunesF p fuel rest else bs
def dropRunes (p : Nat → Bool) (bs : Bytes) : Bytes := dropRunesF p bs.length bs

/-- the bytes of `bs` before its suffix `rest` -/
def consumed (bs rest : Bytes) : Bytes := bs.take (bs.length - rest.length)

/-- `strings.ToUpper` of a byte string (rune-wise) -/
def upperF (cls : CharClass) : Nat → Bytes → Bytes
  | 0, _ => []
  | fuel+1, bs =>
    match nextRune bs with
    | none => []
    | some (r, rest) => encodeRune (cls.toUpper (Char.ofNat r)).toNat ++ upperF cls fuel rest
def upper (cls : CharClass) (bs : Bytes) : Bytes := upperF cls bs.length bs

/-! ## tokens, comments, errors -/
structure Tok where
  ty : Nat
  value : Bytes
  quote : Nat := 0
  startOff : Nat := 0
  endOff : Nat := 0
  deriving Repr, DecidableEq

structure Comment where
  text : Bytes
  block : Bool
  startOff : Nat
  endOff : Nat
  inline : Bool
  deriving Repr, DecidableEq

/-- where an error is located: at a byte offset (through toSQLPosition), or through the tokenizer's internal
    line/column bookkeeping (two sites; not modelled), or the fixed (1,0) of the size check -/
inductive ErrLoc where | at (off : Nat) | internal | fixed
  deriving Repr, DecidableEq

structure LexErr where
  code : String
  loc : ErrLoc
  deriving Repr, DecidableEq

structure Tables where
  keywords : List (Bytes × Nat)
  compoundStarts : List Bytes
  compoundTypes : List (Bytes × Nat)
  operators : List (Bytes × Nat)
  ttIdentifier : Nat
  ttNumber : Nat
  ttPlaceholder : Nat
  ttSingle : Nat
  ttDouble : Nat
  ttString : Nat
  ttTripleSingle : Nat
  ttTripleDouble : Nat
  ttDollar : Nat
  maxTokens : Nat
  maxInput : Nat

def lookup (tbl : List (Bytes × Nat)) (k : Bytes) : Option Nat := (tbl.find? (·.1 == k)).map (·.2)

/-! ## whitespace and comments -/
def isWS (b : UInt8) : Bool := b == 32 || b == 9 || b == 13 || b == 10

/-- rest after a line comment body: up to and including the first newline -/
def afterLine : Bytes → Bytes
  | [] => []
  | b :: bs => if b == 10 then bs else afterLine bs

/-- rest after a block comment body: up to and including the first `*/`; everything when there is none -/
def afterBlock : Bytes → Bytes
  | [] => []
  | [_] => []
  | a :: b :: bs => if a == 42 && b == 47 then bs else afterBlock (b :: bs)

/-- is there anything but blanks between the start of the line and offset `off`? -/
def codeBefore (inp : Bytes) (off : Nat) : Bool :=
  let pre := (inp.take off).reverse          -- bytes before `off`, nearest first
  (pre.takeWhile (· != 10)).any fun b => !(b == 32 || b == 9 || b == 13)

def skipTriviaF (inp : Bytes) : Nat → Bytes → List Comment → Bytes × List Comment
  | 0, rest, cs => (rest.dropWhile isWS, cs)
  | fuel+1, rest, cs =>
    let r1 := rest.dropWhile isWS
    match r1 with
    | c0 :: c1 :: body =>
      if c0 == 45 && c1 == 45 then
        let r2 := afterLine body
        let whole := consumed r1 r2
        -- the text stops before the newline that ends the comment
        let text := if whole.getLast? == some 10 then whole.dropLast else whole
        skipTriviaF inp fuel r2
          (cs ++ [{ text, block := false, startOff := inp.length - r1.length, endOff := inp.length - r2.length,
                    inline := codeBefore inp (inp.length - r1.length) }])
      else if c0 == 47 && c1 == 42 then
        let r2 := afterBlock body
        skipTriviaF inp fuel r2
          (cs ++ [{ text := consumed r1 r2, block := true, startOff := inp.length - r1.length,
                    endOff := inp.length - r2.length, inline := codeBefore inp (inp.length - r1.length) }])
      else (r1, cs)
    | _ => (r1, cs)

/-! ## readers (each takes the suffix that starts with the token) -/

/-- readIdentifier, including the compound-keyword look-ahead -/
def readIdentifier (cls : CharClass) (tb : Tables) (bs : Bytes) : Tok × Bytes :=
  match nextRune bs with
  | none => ({ ty := tb.ttIdentifier, value := [] }, bs)
  | some (_, r1) =>
    let r2 := dropRunes (isIdentChar cls) r1
    let ident := consumed bs r2
    let up := upper cls ident
    let ty := (lookup tb.keywords up).getD tb.ttIdentifier
    let plain : Tok × Bytes := ({ ty, value := ident }, r2)
    if tb.compoundStarts.contains up then
      let r3 := r2.dropWhile isWS
      match nextRune r3 with
      | none => plain
      | some (r, r4) =>
        if isIdentStart cls r then
          let r5 := dropRunes (isIdentChar cls) r4
          let compound := ident ++ [32] ++ consumed r3 r5
          match lookup tb.compoundTypes (upper cls compound) with
          | some cty => ({ ty := cty, value := compound }, r5)
          | none => plain
        else plain
    else plain

/-- optional fraction of a number: `.` must be followed by a digit -/
def numFrac (inp r1 : Bytes) : Except LexErr Bytes :=
  match r1 with
  | 46 :: r2 =>
    match r2 with
    | [] => .error ⟨"E1003", .at (inp.length - r2.length)⟩
    | d :: _ => if isDigitR d.toNat then .ok (dropRunes isDigitR r2) else .error ⟨"E1003", .at (inp.length - r2.length)⟩
  | _ => .ok r1

def skipSign : Bytes → Bytes
  | s :: r => if s == 43 || s == 45 then r else s :: r
  | [] => []

/-- optional exponent: `e`/`E`, optional sign, at least one digit -/
def numExp (inp r3 : Bytes) : Except LexErr Bytes :=
  match r3 with
  | e :: r4 =>
    if e == 101 || e == 69 then
      match skipSign r4 with
      | [] => .error ⟨"E1003", .at inp.length⟩
      | d :: r5 =>
        if isDigitR d.toNat then .ok (dropRunes isDigitR (d :: r5))
        else .error ⟨"E1003", .at (inp.length - (d :: r5).length)⟩
    else .ok r3
  | [] => .ok r3

/-- readNumber -/
def readNumber (tb : Tables) (inp bs : Bytes) : Except LexErr (Tok × Bytes) :=
  if (dropRunes isDigitR bs).isEmpty then
    .ok ({ ty := tb.ttNumber, value := consumed bs (dropRunes isDigitR bs) }, dropRunes isDigitR bs)
  else
    match numFrac inp (dropRunes isDigitR bs) with
    | .error e => .error e
    | .ok r3 =>
      match numExp inp r3 with
      | .error e => .error e
      | .ok r6 => .ok ({ ty := tb.ttNumber, value := consumed bs r6 }, r6)

/-- body of a double-quoted identifier (after the opening quote); `quote` is the normalised quote -/
def quotedIdentF (quote : Nat) : Nat → Bytes → Bytes → Option (Bytes × Bytes) ⊕ Unit
  -- inl (some (value, rest)) : closed; inl none : end of input; inr () : newline inside
  | 0, _, _ => .inl none
  | fuel+1, bs, acc =>
    match nextRune bs with
    | none => .inl none
    | some (r0, rest) =>
      let r := normalizeQuote r0
      if r == quote then
        match nextRune rest with
        | some (n0, rest2) =>
          if normalizeQuote n0 == quote then quotedIdentF quote fuel rest2 (acc ++ encodeRune r)
          else .inl (some (acc, rest))
        | none => .inl (some (acc, rest))
      else if r == 10 then .inr ()
      else quotedIdentF quote fuel rest (acc ++ encodeRune r)

def readQuotedIdentifier (tb : Tables) (inp bs : Bytes) : Except LexErr (Tok × Bytes) :=
  match nextRune bs with
  | none => .error ⟨"E1002", .at (inp.length - bs.length)⟩
  | some (r0, r1) =>
    let quote := normalizeQuote r0
    match quotedIdentF quote r1.length r1 [] with
    | .inl (some (v, rest)) => .ok ({ ty := tb.ttDouble, value := v, quote }, rest)
    | .inl none => .error ⟨"E1002", .at (inp.length - bs.length)⟩
    | .inr () => .error ⟨"E1002", .at (inp.length - bs.length)⟩

/-- body of a backtick identifier (bytes) -/
def backtickF : Bytes → Bytes → Option (Bytes × Bytes)
  | [], _ => none
  | b :: rest, acc =>
    if b == 96 then
      match rest with
      | b2 :: rest2 => if b2 == 96 then backtickF rest2 (acc ++ [96]) else some (acc, rest)
      | [] => some (acc, rest)
    else backtickF rest (acc ++ [b])

def readBacktick (tb : Tables) (inp bs : Bytes) : Except LexErr (Tok × Bytes) :=
  match backtickF (bs.drop 1) [] with
  | some (v, rest) => .ok ({ ty := tb.ttIdentifier, value := v }, rest)
  | none => .error ⟨"E1002", .at (inp.length - bs.length)⟩

/-- body of an ordinary string literal after the opening quote -/
def stringBodyF (inp : Bytes) (quote : Nat) : Nat → Bytes → Bytes → Except LexErr (Option (Bytes × Bytes))
  | 0, _, _ => .ok none
  | fuel+1, bs, acc =>
    match nextRune bs with
    | none => .ok none
    | some (r0, rest) =>
      let r := normalizeQuote r0
      if r == quote then
        match nextRune rest with
        | some (n0, rest2) =>
          if normalizeQuote n0 == quote then stringBodyF inp quote fuel rest2 (acc ++ encodeRune r)
          else .ok (some (acc, rest))
        | none => .ok (some (acc, rest))
      else if r == 92 then
        -- handleEscapeSequence: the backslash is one byte
        match nextRune bs.tail with
        | none => .error ⟨"E1002", .at (inp.length - bs.tail.length)⟩
        | some (e, rest2) =>
          if e == 92 || e == 34 || e == 39 || e == 96 then stringBodyF inp quote fuel rest2 (acc ++ encodeRune e)
          else if e == 110 then stringBodyF inp quote fuel rest2 (acc ++ [10])
          else if e == 114 then stringBodyF inp quote fuel rest2 (acc ++ [13])
          else if e == 116 then stringBodyF inp quote fuel rest2 (acc ++ [9])
          else .error ⟨"E1001", .at (inp.length - bs.tail.length)⟩
      else stringBodyF inp quote fuel rest (acc ++ encodeRune r)

/-- does a closing `quote quote quote` start here?  Tested only when at least three bytes remain. -/
def tripleCloses (quote : Nat) (bs : Bytes) : Option Bytes :=
  if bs.length < 3 then none
  else
    match nextRune bs with
    | some (r1, t1) =>
      match nextRune t1 with
      | some (r2, t2) =>
        match nextRune t2 with
        | some (r3, t3) => if r1 == quote && r2 == quote && r3 == quote then some t3 else none
        | none => none
      | none => none
    | none => none

/-- body of a triple-quoted string after the opening three quotes (`quote` is the raw quote rune) -/
def tripleBodyF (quote : Nat) : Nat → Bytes → Bytes → Option (Bytes × Bytes)
  | 0, _, _ => none
  | fuel+1, bs, acc =>
    match tripleCloses quote bs with
    | some t3 => some (acc, t3)
    | none =>
      match nextRune bs with
      | none => none
      | some (r, rest) => tripleBodyF quote fuel rest (acc ++ encodeRune r)

/-- triple quote: at least three bytes, and the bytes at +1 and +2 decode to the opening quote rune -/
def isTriple (r0 : Nat) (bs : Bytes) : Bool :=
  3 ≤ bs.length && (decodeRune (bs.drop 1)).1 == r0 && (decodeRune (bs.drop 2)).1 == r0

/-- the rest after two more runes (the opening of a triple-quoted string consumes three runes) -/
def dropTwoRunes (r1 : Bytes) : Bytes :=
  match nextRune r1 with
  | some (_, t) => (match nextRune t with | some (_, t2) => t2 | none => t)
  | none => r1

/-- readQuotedString (called with the raw opening rune) -/
def readQuotedString (tb : Tables) (inp bs : Bytes) : Except LexErr (Tok × Bytes) :=
  match nextRune bs with
  | none => .error ⟨"E1002", .at (inp.length - bs.length)⟩
  | some (r0, r1) =>
    if isTriple r0 bs then
      match tripleBodyF r0 (dropTwoRunes r1).length (dropTwoRunes r1) [] with
      | some (v, rest) =>
        .ok ({ ty := if r0 == 39 then tb.ttTripleSingle else tb.ttTripleDouble, value := v, quote := r0 }, rest)
      | none => .error ⟨"E1002", .at (inp.length - bs.length)⟩
    else
      match stringBodyF inp (normalizeQuote r0) r1.length r1 [] with
      | .error e => .error e
      | .ok none => .error ⟨"E1002", .at (inp.length - bs.length)⟩
      | .ok (some (v, rest)) =>
        let ty := if isStringQuoteStart r0 then tb.ttSingle
                  else if r0 == 34 || r0 == 0x201C || r0 == 0x201D then tb.ttDouble else tb.ttString
        .ok ({ ty, value := v, quote := r0 }, rest)

/-- longest operator of the table that is a prefix of the input -/
def longestOp (ops : List (Bytes × Nat)) (bs : Bytes) : Option (Bytes × Nat) :=
  ops.foldl (fun best o =>
    if o.1.isPrefixOf bs && o.1 != [] then
      match best with
      | some b => if o.1.length > b.1.length then some o else best
      | none => some o
    else best) none

/-- find the closing tag of a dollar-quoted string: (content, rest after the tag) -/
def dollarBodyF (closing : Bytes) : Nat → Bytes → Bytes → Option (Bytes × Bytes)
  | 0, _, _ => none
  | fuel+1, bs, acc =>
    match bs with
    | [] => none
    | b :: _ =>
      if b == 36 && closing.isPrefixOf bs then some (acc, bs.drop closing.length)
      else
        let d := decodeRune bs
        let w := max d.2 1
        dollarBodyF closing fuel (bs.drop w) (acc ++ bs.take w)

/-- the `$` branch of readPunctuation; `bs` starts with `$` -/
def readDollar (cls : CharClass) (tb : Tables) (inp bs : Bytes) : Except LexErr (Tok × Bytes) :=
  let r1 := bs.drop 1
  let ph (rest : Bytes) : Except LexErr (Tok × Bytes) := .ok ({ ty := tb.ttPlaceholder, value := [36] }, rest)
  match nextRune r1 with
  | none => ph r1
  | some (n, _) =>
    if isDigitR n then
      let r2 := dropRunes isDigitR r1
      .ok ({ ty := tb.ttPlaceholder, value := 36 :: consumed r1 r2 }, r2)
    else if n == 36 || isIdentStart cls n then
      -- tag characters up to the next `$`
      let r2 := if n == 36 then r1 else dropRunes (fun c => c != 36 && isIdentChar cls c) r1
      match nextRune r2 with
      | none => ph r1
      | some (c, r3) =>
        if c != 36 then ph r1          -- a lone `$`: what was scanned as a possible tag is given back
        else
          let tag := consumed r1 r2
          let closing := [36] ++ tag ++ [36]
          match dollarBodyF closing r3.length r3 [] with
          | some (content, rest) => .ok ({ ty := tb.ttDollar, value := content }, rest)
          | none => .error ⟨"E1002", .at (inp.length - bs.length)⟩
    else ph r1

/-- readPunctuation; `bs` is non-empty and its first rune starts no identifier, number or quoted token -/
def readPunctuation (cls : CharClass) (tb : Tables) (inp bs : Bytes) : Except LexErr (Tok × Bytes) :=
  match bs with
  | [] => .error ⟨"E2005", .at inp.length⟩
  | b :: r1 =>
    if b == 36 then readDollar cls tb inp bs
    else if b == 64 then
      -- `@>` `@@` `@name` `@`
      match nextRune r1 with
      | some (n, _) =>
        if n == 62 then .ok ({ ty := (lookup tb.operators [64, 62]).getD 0, value := [64, 62] }, r1.drop 1)
        else if n == 64 then .ok ({ ty := (lookup tb.operators [64, 64]).getD 0, value := [64, 64] }, r1.drop 1)
        else if isIdentStart cls n then
          let (t, rest) := readIdentifier cls tb r1
          .ok ({ ty := tb.ttPlaceholder, value := 64 :: t.value }, rest)
        else .ok ({ ty := (lookup tb.operators [64]).getD 0, value := [64] }, r1)
      | none => .ok ({ ty := (lookup tb.operators [64]).getD 0, value := [64] }, r1)
    else
      match longestOp tb.operators bs with
      | some (op, ty) => .ok ({ ty, value := op }, bs.drop op.length)
      | none => .error ⟨"E1001", .at (inp.length - bs.length)⟩

/-- nextToken -/
def nextToken (cls : CharClass) (tb : Tables) (inp bs : Bytes) : Except LexErr (Tok × Bytes) :=
  let r := (decodeRune bs).1
  if isIdentStart cls r then .ok (readIdentifier cls tb bs)
  else if isDigitR r then readNumber tb inp bs
  else if r == 34 || r == 0x201C || r == 0x201D then readQuotedIdentifier tb inp bs
  else if r == 96 then readBacktick tb inp bs
  else if isStringQuoteStart r then readQuotedString tb inp bs
  else readPunctuation cls tb inp bs

inductive Result where
  | ok (toks : List Tok) (comments : List Comment)
  | err (e : LexErr)
  | outOfFuel
  deriving Repr, DecidableEq

def lexLoop (cls : CharClass) (tb : Tables) (inp : Bytes) : Nat → Bytes → List Tok → List Comment → Result
  | 0, _, _, _ => .outOfFuel
  | fuel+1, rest, toks, cs =>
    let (r1, cs1) := skipTriviaF inp (rest.length + 1) rest cs
    match r1 with
    | [] =>
      let off := inp.length
      .ok (toks.reverse ++ [{ ty := 0, value := [], startOff := off, endOff := off }]) cs1
    | _ =>
      if toks.length ≥ tb.maxTokens then .err ⟨"E1007", .at (inp.length - r1.length)⟩
      else
        match nextToken cls tb inp r1 with
        | .error e => .err e
        | .ok (t, r2) =>
          lexLoop cls tb inp fuel r2
            ({ t with startOff := inp.length - r1.length, endOff := inp.length - r2.length } :: toks) cs1

/-- `Tokenizer.Tokenize` -/
def tokenize (cls : CharClass) (tb : Tables) (inp : Bytes) : Result :=
  if inp.length > tb.maxInput then .err ⟨"E1006", .fixed⟩
  else lexLoop cls tb inp (inp.length + 1) inp [] []

/-! ## positions: the meaning of `toSQLPosition` -/

/-- (line, column) of byte offset `off`: 1-based; a tab advances the column by 4, any other byte by 1 -/
def locOf (inp : Bytes) (off : Nat) : Nat × Nat :=
  let pre := inp.take off
  let line := 1 + (pre.filter (· == 10)).length
  let lastLine := (pre.reverse.takeWhile (· != 10))
  let col := 1 + (lastLine.map fun b => if b == 9 then 4 else 1).sum
  (line, col)

end GoSQLXModel.Lex
