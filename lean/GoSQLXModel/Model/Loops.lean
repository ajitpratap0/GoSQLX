/-!
# The statement loops (parser.go Parse / ParseWithPositions / ParseContext, recovery.go) over an
abstract statement oracle

`kind i` is the class of token `i` as the loops see it (`cur`), `n = len(tokens)`, and
`stmt p = (ok, stop, code)` is what `parseStatement` does when started at `p`: success or failure,
the position where it stops, and the error code.  The frame assumptions are
`fa2 : p ≤ stop` (never moves backwards) and `fa3 : ok → p < stop` (success consumes a token).
Past the end the Go parser keeps the last token in `currentToken` (advance() does not clear it);
`kind` is therefore consulted at `stop` positions ≥ n as well — the harness passes the stale kind.
-/
namespace GoSQLXModel.Loops

inductive Kind where | semi | eof | start | other
  deriving DecidableEq, Repr, Inhabited

structure Out where
  ok : Bool
  stop : Nat
  code : Nat
  deriving Repr, DecidableEq

structure Input where
  kind : Nat → Kind
  n : Nat
  stmt : Nat → Out

/-- result of a strict (non-recovering) entry point: statement start indices, or error code + position -/
inductive Res where
  | ok (stmts : List Nat)
  | err (code : Nat) (pos : Nat)
  deriving Repr, DecidableEq

def E2004 : Nat := 2004
def E2005 : Nat := 2005

variable (I : Input)

/-- loop condition `p.currentPos < len(tokens) && !p.isType(EOF)` -/
def more (pos : Nat) : Bool := decide (pos < I.n) && !(I.kind pos == .eof)

/-- mirrors `Parser.Parse` (pkg/sql/parser/parser.go) -/
def parseLoop (strict : Bool) : Nat → Nat → List Nat → Option Res
  | 0, _, _ => none
  | f+1, pos, acc =>
    if more I pos then
      if I.kind pos = .semi then
        if strict then some (.err E2004 pos) else parseLoop strict f (pos+1) acc
      else
        let o := I.stmt pos
        if o.ok then
          let pos' := if I.kind o.stop = .semi then o.stop + 1 else o.stop
          parseLoop strict f pos' (acc ++ [pos])
        else some (.err o.code pos)
    else if acc.isEmpty then some (.err (if strict then E2004 else E2005) pos) else some (.ok acc)

/-- `Parser.ParseWithPositions`: the same loop (only error *locations* differ, which `Res` does not carry) -/
def parseWithPositionsLoop (strict : Bool) : Nat → Nat → List Nat → Option Res
  | 0, _, _ => none
  | f+1, pos, acc =>
    if more I pos then
      if I.kind pos = .semi then
        if strict then some (.err E2004 pos) else parseWithPositionsLoop strict f (pos+1) acc
      else
        let o := I.stmt pos
        if o.ok then
          let pos' := if I.kind o.stop = .semi then o.stop + 1 else o.stop
          parseWithPositionsLoop strict f pos' (acc ++ [pos])
        else some (.err o.code pos)
    else if acc.isEmpty then some (.err (if strict then E2004 else E2005) pos) else some (.ok acc)

/-- result of a context-aware entry point -/
inductive CRes where
  | done (r : Res)
  | cancelled (atPoll : Nat)
  deriving Repr, DecidableEq

/-- `Parser.ParseContext`: `fires k` says whether the k-th poll observes a done context; `polls p` is the
    number of polls the statement started at `p` performs before it returns (the statement's own
    observation of a done context is folded into `cancelled`) -/
def parseContextLoop (strict : Bool) (fires : Nat → Bool) (polls : Nat → Nat) :
    Nat → Nat → Nat → List Nat → Option CRes
  | 0, _, _, _ => none
  | f+1, k, pos, acc =>
    if more I pos then
      if fires k then some (.cancelled k)
      else if I.kind pos = .semi then
        if strict then some (.done (.err E2004 pos)) else parseContextLoop strict fires polls f (k+1) (pos+1) acc
      else
        -- polls k+1 … k+polls pos happen inside the statement
        match (List.range (polls pos)).find? (fun j => fires (k + 1 + j)) with
        | some j => some (.cancelled (k + 1 + j))
        | none =>
          let o := I.stmt pos
          if o.ok then
            let pos' := if I.kind o.stop = .semi then o.stop + 1 else o.stop
            parseContextLoop strict fires polls f (k + 1 + polls pos) pos' (acc ++ [pos])
          else some (.done (.err o.code pos))
    else if acc.isEmpty then some (.done (.err (if strict then E2004 else E2005) pos)) else some (.done (.ok acc))

/-- mirrors `synchronize` (pkg/sql/parser/recovery.go) -/
def sync : Nat → Nat → Option Nat
  | 0, _ => none
  | f+1, pos =>
    if more I pos then
      if I.kind pos = .semi then some (pos+1)
      else if I.kind pos = .start then some pos
      else sync f (pos+1)
    else some pos

/-- recovery loop: (statement starts, error starts) -/
def recLoop : Nat → Nat → List Nat → List Nat → Option (List Nat × List Nat)
  | 0, _, _, _ => none
  | f+1, pos, st, er =>
    if more I pos then
      if I.kind pos = .semi then recLoop f (pos+1) st er
      else
        let o := I.stmt pos
        if o.ok then
          let pos' := if I.kind o.stop = .semi then o.stop + 1 else o.stop
          recLoop f pos' (st ++ [pos]) er
        else
          let p1 := if o.stop = pos then pos + 1 else o.stop
          match sync I f p1 with
          | none => none
          | some p2 => recLoop f p2 st (er ++ [pos])
    else some (st, er)

/-! ## C07: the loop copies agree -/

theorem parse_eq_withPositions (strict : Bool) (f pos : Nat) (acc : List Nat) :
    parseWithPositionsLoop I strict f pos acc = parseLoop I strict f pos acc := by
  induction f generalizing pos acc with
  | zero => rfl
  | succ f ih => simp only [parseWithPositionsLoop, parseLoop, ih]

/-! ## C12: recovery terminates; agrees with the strict loop -/

theorem more_iff {pos : Nat} : more I pos = true ↔ pos < I.n ∧ I.kind pos ≠ .eof := by simp [more]

theorem lt_n_of_more {pos : Nat} (h : more I pos = true) : pos < I.n := ((more_iff I).1 h).1

theorem sync_ge (f p q : Nat) (h : sync I f p = some q) : p ≤ q := by
  fun_induction sync I f p with
  | case1 => cases h
  | case2 | case3 | case5 => cases h; omega
  | case4 _ _ _ _ _ ih => exact Nat.le_of_succ_le (ih h)

theorem sync_total (f p : Nat) (h : I.n + 1 ≤ f + p) (hf : 0 < f) : ∃ q, sync I f p = some q := by
  fun_induction sync I f p with
  | case1 => omega
  | case2 | case3 | case5 => exact ⟨_, rfl⟩
  | case4 f p hm _ _ ih => have := lt_n_of_more I hm; exact ih (by omega) (by omega)

structure Frame : Prop where
  fa2 : ∀ p, p ≤ (I.stmt p).stop
  fa3 : ∀ p, (I.stmt p).ok = true → p < (I.stmt p).stop

/-- where the loops go on after a statement that succeeded … -/
theorem Frame.lt_next {I : Input} (hF : Frame I) {pos : Nat} (hok : (I.stmt pos).ok = true) :
    pos < if I.kind (I.stmt pos).stop = .semi then (I.stmt pos).stop + 1 else (I.stmt pos).stop := by
  have := hF.fa3 pos hok; split <;> omega

/-- … and where resynchronisation starts after one that failed: both are past the statement's first token -/
theorem Frame.lt_resync {I : Input} (hF : Frame I) (pos : Nat) :
    pos < if (I.stmt pos).stop = pos then pos + 1 else (I.stmt pos).stop := by
  have := hF.fa2 pos; split <;> omega

/-- C12, recovery terminates (`Props.C12.recovery_terminates` is the case `pos = 0`): fuel `n + 2` less the position
    reached is enough for the loop to return (one more than for `parseLoop`: resynchronisation runs on the fuel left
    after the failing statement and needs `n + 1` itself) -/
theorem recLoop_total (hF : Frame I) (f pos : Nat) (st er : List Nat) (h : I.n + 2 ≤ f + pos) (hf : 0 < f) :
    ∃ r, recLoop I f pos st er = some r := by
  fun_induction recLoop I f pos st er with
  | case1 => omega
  | case2 f pos _ _ hm _ ih => have := lt_n_of_more I hm; exact ih (by omega) (by omega)
  | case3 f pos _ _ hm _ o hok pos' ih =>
    have := lt_n_of_more I hm; have : pos < pos' := hF.lt_next hok
    exact ih (by omega) (by omega)
  | case4 f pos _ _ hm _ o _ p1 hs =>
    have := lt_n_of_more I hm; have : pos < p1 := hF.lt_resync pos
    obtain ⟨q, hq⟩ := sync_total I f p1 (by omega) (by omega)
    cases hs.symm.trans hq
  | case5 f pos _ _ hm _ o _ p1 p2 hs ih =>
    have := lt_n_of_more I hm; have : pos < p1 := hF.lt_resync pos; have := sync_ge I _ _ _ hs
    exact ih (by omega) (by omega)
  | case6 => exact ⟨_, rfl⟩

theorem recover_terminates (hF : Frame I) (st er : List Nat) : ∃ r, recLoop I (I.n + 2) 0 st er = some r :=
  recLoop_total I hF _ _ _ _ (by omega) (by omega)

theorem parseLoop_total (hF : Frame I) (strict : Bool) (f pos : Nat) (acc : List Nat) (h : I.n + 1 ≤ f + pos) (hf : 0 < f) :
    ∃ r, parseLoop I strict f pos acc = some r := by
  fun_induction parseLoop I strict f pos acc with
  | case1 => omega
  | case2 | case5 | case6 | case7 => exact ⟨_, rfl⟩
  | case3 f pos _ hm _ _ ih => have := lt_n_of_more I hm; exact ih (by omega) (by omega)
  | case4 f pos _ hm _ o hok pos' ih =>
    have := lt_n_of_more I hm; have : pos < pos' := hF.lt_next hok
    exact ih (by omega) (by omega)

theorem rec_errs_grow (f pos : Nat) (st er : List Nat) (r) (h : recLoop I f pos st er = some r) :
    ∃ d, r.2 = er ++ d := by
  fun_induction recLoop I f pos st er with
  | case1 | case4 => cases h
  | case2 _ _ _ _ _ _ ih | case3 _ _ _ _ _ _ _ _ _ ih => exact ih h
  | case5 _ pos _ _ _ _ _ _ _ _ _ ih =>
    obtain ⟨d, hd⟩ := ih h
    exact ⟨pos :: d, by rw [hd, List.append_assoc]; rfl⟩
  | case6 => cases h; exact ⟨[], (List.append_nil _).symm⟩

/-- if `parseLoop` in non-strict mode succeeds, recovery finds the same statements and no error -/
theorem parse_ok_rec (f pos : Nat) (acc l : List Nat) (h : parseLoop I false f pos acc = some (.ok l)) :
    ∃ d, l = acc ++ d ∧ ∀ st er, recLoop I f pos st er = some (st ++ d, er) := by
  fun_induction parseLoop I false f pos acc with
  | case1 | case2 | case5 | case6 => cases h
  | case3 _ _ _ hm hs _ ih =>
    exact (ih h).imp fun d hd => ⟨hd.1, fun st er => by simp [recLoop, hm, hs, hd.2]⟩
  | case4 _ pos _ hm hs o hok pos' ih =>
    obtain ⟨d, hd, hr⟩ := ih h
    refine ⟨pos :: d, by rw [hd, List.append_assoc]; rfl, fun st er => ?_⟩
    simp [recLoop, hm, hs, hok, o, pos', hr]
  | case7 _ _ acc hm =>
    cases h
    exact ⟨[], (List.append_nil _).symm, fun st er => by simp [recLoop, hm]⟩

/-- if `parseLoop` in non-strict mode fails at statement `p` (with a statement error), every returning recovery
    run lists `p` among its errors -/
theorem parse_err_rec (f pos : Nat) (acc : List Nat) (c p : Nat)
    (h : parseLoop I false f pos acc = some (.err c p)) (hm : more I p = true) :
    ∀ f' st er r, recLoop I f' pos st er = some r → p ∈ r.2 := by
  fun_induction parseLoop I false f pos acc with
  | case1 | case7 => cases h
  | case2 _ _ _ _ _ hst => cases hst
  | case3 _ _ _ hmp hs _ ih =>
    rintro (_ | f') st er r hr
    · cases hr
    · exact ih h _ _ _ _ (by simpa [recLoop, hmp, hs] using hr)
  | case4 _ _ _ hmp hs o hok pos' ih =>
    rintro (_ | f') st er r hr
    · cases hr
    · exact ih h _ _ _ _ (by simpa [recLoop, hmp, hs, hok, o] using hr)
  | case5 _ pos _ hmp hs o hok =>
    rintro (_ | f') st er r hr
    · cases hr
    cases h
    simp only [recLoop, hmp, hs, hok, if_true, Bool.false_eq_true, if_false, o] at hr
    split at hr
    · cases hr
    · obtain ⟨d, hd⟩ := rec_errs_grow I _ _ _ _ _ hr
      rw [hd]; exact List.mem_append_left _ (List.mem_append_right _ (List.mem_singleton_self _))
  | case6 _ _ _ hmp => cases h; exact absurd hm hmp

/-- C07 / C12, "recovery reports an error exactly when parsing fails", as this implication and the next
    (`Props.C12.recovery_iff_ok`, `recovery_iff_err`), in non-strict mode: when `parseLoop` returns `ok`, recovery (same
    fuel) reports no error; when it fails inside the token stream, recovery reports at least one error. -/
theorem recovery_no_error_of_parse_ok (f : Nat) (l : List Nat) (h : parseLoop I false f 0 [] = some (.ok l)) :
    recLoop I f 0 [] [] = some (l, []) := by
  obtain ⟨d, hd, hr⟩ := parse_ok_rec I f 0 [] l h
  simpa [hd] using hr [] []

theorem recovery_error_of_parse_err (f : Nat) (c p : Nat) (h : parseLoop I false f 0 [] = some (.err c p))
    (hm : more I p = true) (f' : Nat) (r) (hr : recLoop I f' 0 [] [] = some r) : r.2 ≠ [] :=
  List.ne_nil_of_mem (parse_err_rec I f 0 [] c p h hm f' [] [] r hr)

end GoSQLXModel.Loops
