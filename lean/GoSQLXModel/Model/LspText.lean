/-!
# LSP document mirroring (pkg/lsp/documents.go) and the protocol's position rules

Texts are `List Char` (valid UTF-8 documents; the byte level is tied by the correspondence run).
`Code.*` mirrors the Go code: split into lines, sum line lengths, convert the UTF-16 column inside the
line, clamp, slice.  `Spec.*` is the protocol rule stated independently as a single pass over the
text: the offset of position (l, c) is reached by walking the text, counting line feeds and UTF-16
units, stopping at the end of line l (before a CR that belongs to the terminator), never inside a character.
-/
namespace GoSQLXModel.Lsp

def units (c : Char) : Nat := if c.toNat ≥ 0x10000 then 2 else 1

namespace Code

/-- `strings.Split(content, "\n")` (always at least one line) -/
def splitLines : List Char → List (List Char)
  | [] => [[]]
  | c :: cs =>
    if c = '\n' then [] :: splitLines cs
    else match splitLines cs with
      | l :: ls => (c :: l) :: ls
      | [] => [[c]]

/-- the line without a trailing CR (`end--` when the last byte is '\r') -/
def stripCR : List Char → List Char
  | [] => []
  | [c] => if c = '\r' then [] else [c]
  | c :: d :: cs => c :: stripCR (d :: cs)

/-- `utf16ColumnToByteOffset` over characters: how many characters fit into `col` UTF-16 units -/
def colToIdx : List Char → Nat → Nat
  | [], _ => 0
  | c :: cs, col => if units c > col then 0 else 1 + colToIdx cs (col - units c)

/-- the loop of `positionToOffset` over the line table (line and character already non-negative) -/
def offsetIn : List (List Char) → Nat → Nat → Nat
  | [], _, _ => 0
  | line :: _, 0, c => colToIdx (stripCR line) c
  | line :: rest, l+1, c => line.length + 1 + offsetIn rest l c

def positionToOffset (lines : List (List Char)) (l c : Int) : Nat :=
  if l < 0 then 0 else offsetIn lines l.toNat (if c < 0 then 0 else c.toNat)

/-- Go slice `s[a:b]`: panics (none) unless `a ≤ b ≤ len` -/
def slice? (s : List Char) (a b : Nat) : Option (List Char) :=
  if a ≤ b ∧ b ≤ s.length then some ((s.take b).drop a) else none

/-- `applyChange` for a ranged edit; `none` = the Go code would panic -/
def applyChange (content : List Char) (sl sc el ec : Int) (text : List Char) : Option (List Char) :=
  let lines := splitLines content
  let so := positionToOffset lines sl sc
  let eo := positionToOffset lines el ec
  let so := if so > content.length then content.length else so
  let eo := if eo < so then so else eo
  match slice? content 0 so with
  | none => none
  | some head =>
    if eo < content.length then
      match slice? content eo content.length with
      | none => none
      | some tail => some (head ++ text ++ tail)
    else some (head ++ text)

end Code

namespace Spec

/-- walk the text to line `l`, then `c` UTF-16 units into it -/
def idx : List Char → Nat → Nat → Nat
  | [], _, _ => 0
  | ch :: rest, 0, c =>
    if ch = '\n' then 0
    else if ch = '\r' ∧ (rest = [] ∨ rest.head? = some '\n') then 0
    else if units ch ≤ c then 1 + idx rest 0 (c - units ch) else 0
  | ch :: rest, l+1, c => 1 + (if ch = '\n' then idx rest l c else idx rest (l+1) c)

/-- negative line: document start; negative character: line start -/
def pos (t : List Char) (l c : Int) : Nat :=
  if l < 0 then 0 else idx t l.toNat (if c < 0 then 0 else c.toNat)

/-- replace the range; an inverted range is empty at its start -/
def apply (t : List Char) (sl sc el ec : Int) (text : List Char) : List Char :=
  let s := pos t sl sc
  let e := max (pos t el ec) s
  t.take s ++ text ++ t.drop e

end Spec

theorem colToIdx_le (line : List Char) (c : Nat) : Code.colToIdx line c ≤ line.length := by
  fun_induction Code.colToIdx line c with
  | case1 | case2 => exact Nat.zero_le _
  | case3 c cs col h ih => rw [List.length_cons]; omega

theorem stripCR_length_le (line : List Char) : (Code.stripCR line).length ≤ line.length := by
  fun_induction Code.stripCR line with
  | case4 c d cs ih => exact Nat.succ_le_succ ih
  | _ => simp

theorem stripCR_cons (c : Char) (l : List Char) :
    Code.stripCR (c :: l) = if c = '\r' ∧ l = [] then [] else c :: Code.stripCR l := by
  cases l <;> simp [Code.stripCR]

theorem splitLines_first (t : List Char) : ∃ ls, Code.splitLines t = t.takeWhile (· ≠ '\n') :: ls := by
  induction t with
  | nil => exact ⟨[], rfl⟩
  | cons c cs ih =>
    obtain ⟨ls, h⟩ := ih
    by_cases hc : c = '\n' <;> simp [Code.splitLines, hc, h]

/-- total length of the line table: Σ (len + 1) = len(text) + 1 -/
def tableLen : List (List Char) → Nat
  | [] => 0
  | l :: ls => l.length + 1 + tableLen ls

theorem tableLen_split (t : List Char) : tableLen (Code.splitLines t) = t.length + 1 := by
  induction t with
  | nil => rfl
  | cons c cs ih =>
    obtain ⟨ls, h⟩ := splitLines_first cs
    rw [h] at ih
    by_cases hc : c = '\n' <;> simp only [Code.splitLines, hc, h, tableLen, if_true, if_false, List.length_cons,
      List.length_nil] at ih ⊢ <;> omega

theorem offsetIn_le (lines : List (List Char)) (l c : Nat) : Code.offsetIn lines l c ≤ tableLen lines := by
  fun_induction Code.offsetIn lines l c with
  | case1 => exact Nat.le_refl _
  | case2 line rest c =>
    have := colToIdx_le (Code.stripCR line) c
    have := stripCR_length_le line
    simp only [tableLen]; omega
  | case3 line rest l c ih => simp only [tableLen]; omega

/-- within the first line the rule walks exactly as far as the code's column conversion: it stops at the line feed, at
    a CR that ends the line, and when the next character no longer fits into the UTF-16 column -/
theorem idx_zero (t : List Char) (c : Nat) :
    Spec.idx t 0 c = Code.colToIdx (Code.stripCR (t.takeWhile (· ≠ '\n'))) c := by
  induction t generalizing c with
  | nil => rfl
  | cons ch rest ih =>
    by_cases hnl : ch = '\n'
    · simp [Spec.idx, hnl, Code.stripCR, Code.colToIdx]
    · have : (rest = [] ∨ rest.head? = some '\n') ↔ rest.takeWhile (· ≠ '\n') = [] := by
        cases rest <;> simp [List.takeWhile_cons]
      simp only [Spec.idx, hnl, if_false, this, List.takeWhile_cons, decide_eq_true (show ch ≠ '\n' from hnl), if_true,
        stripCR_cons]
      split
      · rfl
      · simp only [Code.colToIdx, ih]
        split <;> split <;> omega

/-- the line-table arithmetic of the code, clamped to the document, is the protocol offset -/
theorem offset_eq_spec (t : List Char) (l c : Nat) :
    min (Code.offsetIn (Code.splitLines t) l c) t.length = Spec.idx t l c := by
  induction t generalizing l with
  | nil => cases l <;> rfl
  | cons ch rest ih =>
    cases l with
    | zero =>
      obtain ⟨ls, h⟩ := splitLines_first (ch :: rest)
      rw [h, idx_zero, Code.offsetIn]
      exact Nat.min_eq_left (Nat.le_trans (colToIdx_le _ _)
        (Nat.le_trans (stripCR_length_le _) (List.takeWhile_sublist _).length_le))
    | succ l =>
      -- a line feed moves both walks to the next line; any other character lengthens the first line by one
      obtain ⟨ls, hs⟩ := splitLines_first rest
      by_cases hnl : ch = '\n'
      · have := ih l
        simp only [Code.splitLines, hnl, if_true, Code.offsetIn, Spec.idx, List.length_cons, List.length_nil] at this ⊢
        omega
      · have := ih (l + 1)
        simp only [Code.splitLines, hs, hnl, if_false, Code.offsetIn, Spec.idx, List.length_cons] at this ⊢
        omega

theorem position_eq_spec (t : List Char) (l c : Int) :
    min (Code.positionToOffset (Code.splitLines t) l c) t.length = Spec.pos t l c := by
  unfold Code.positionToOffset Spec.pos
  split
  · simp
  · exact offset_eq_spec t _ _

/-- C18, one edit (`Props.C18.apply_no_panic`, `apply_is_protocol_edit`): for every document, every range (negative,
    inverted, past the end, inside a surrogate pair) and every replacement text, the code neither
    panics nor deviates from the protocol rule. -/
theorem applyChange_eq_spec (t : List Char) (sl sc el ec : Int) (text : List Char) :
    Code.applyChange t sl sc el ec text = some (Spec.apply t sl sc el ec text) := by
  unfold Code.applyChange Spec.apply
  simp only [← position_eq_spec, Code.slice?]
  generalize Code.positionToOffset _ sl sc = so
  generalize Code.positionToOffset _ el ec = eo
  -- the code clamps both offsets to the document with `if`, so no slice is out of range
  have hso : (if so > t.length then t.length else so) = min so t.length := by grind
  have heo : (if eo < min so t.length then min so t.length else eo) = max eo (min so t.length) := by grind
  simp only [hso, heo, Nat.zero_le, Nat.min_le_right, and_self, if_true, List.drop_zero]
  split
  · next hlt =>
    rw [Nat.min_eq_left (show eo ≤ t.length by omega)]
    simp [Nat.le_of_lt hlt]
  · -- beyond the end of the document `drop` does not see the difference
    rw [List.drop_eq_nil_of_le (by omega), List.append_nil]

theorem applyChange_no_panic (t : List Char) (sl sc el ec : Int) (text : List Char) :
    Code.applyChange t sl sc el ec text ≠ none := by
  rw [applyChange_eq_spec]; simp

end GoSQLXModel.Lsp
