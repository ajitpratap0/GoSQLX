/-!
# Metrics under arbitrary interleavings of atomic micro-steps

Threads are lists of atomic micro-steps on shared counters; a schedule is a list of thread indices
(an index out of range, or of a finished thread, is a no-op); sequential consistency of `sync/atomic`
is assumed.  Two protocols are modelled:

* **adds** (`atomic.AddInt64`): the counter always equals its initial value plus everything added so far;
* **best-value update** (the min/max query size): `load; if mine is better { CAS(cur, mine) or retry }`
  — for every schedule that runs all threads to completion the final value is a recorded value
  (or the initial one) and no recorded value is better; with the plain `load; store` sequence the
  same schedule space contains a lost update (witness by `decide`).
-/
namespace GoSQLXModel.Metrics

/-- thread `i` performs its next pending add -/
def addStep : Nat → List (List Nat) → Nat → Nat × List (List Nat)
  | c, [], _ => (c, [])
  | c, [] :: ts, 0 => (c, [] :: ts)
  | c, (a :: p) :: ts, 0 => (c + a, p :: ts)
  | c, t :: ts, i+1 => let (c', ts') := addStep c ts i; (c', t :: ts')

def runAdds (c : Nat) (ts : List (List Nat)) : List Nat → Nat × List (List Nat)
  | [] => (c, ts)
  | i :: sched => let (c', ts') := addStep c ts i; runAdds c' ts' sched

def pendingSum (ts : List (List Nat)) : Nat := (ts.map List.sum).sum

theorem addStep_conserves (c : Nat) (ts : List (List Nat)) (i : Nat) :
    (addStep c ts i).1 + pendingSum (addStep c ts i).2 = c + pendingSum ts := by
  fun_induction addStep c ts i with
  | case1 | case2 => rfl
  | case3 c a p ts => simp only [pendingSum, List.map_cons, List.sum_cons]; omega
  | case4 c t ts i c' ts' h ih =>
    simp only [h, pendingSum, List.map_cons, List.sum_cons] at ih ⊢; omega

/-- C10, operation and byte counters (`Props.C10.totals_exact`): whatever the schedule, counter + still-pending adds =
    initial + all adds; in particular when every thread has finished the counter equals the true total. -/
theorem adds_exact (c : Nat) (ts : List (List Nat)) (sched : List Nat) :
    (runAdds c ts sched).1 + pendingSum (runAdds c ts sched).2 = c + pendingSum ts := by
  induction sched generalizing c ts with
  | nil => rfl
  | cons i sched ih =>
    simp only [runAdds]
    rw [ih, addStep_conserves]

theorem pendingSum_finished {ts : List (List Nat)} (h : ∀ p ∈ ts, p = []) : pendingSum ts = 0 := by
  induction ts with
  | nil => rfl
  | cons p ts ih =>
    rw [List.forall_mem_cons] at h
    simp [pendingSum, h.1, ← ih h.2]

theorem adds_exact_finished (c : Nat) (ts : List (List Nat)) (sched : List Nat)
    (hfin : ∀ p ∈ (runAdds c ts sched).2, p = []) : (runAdds c ts sched).1 = c + pendingSum ts := by
  rw [← adds_exact c ts sched, pendingSum_finished hfin, Nat.add_zero]

theorem pendingSum_ones {α : Type} (l : List α) : pendingSum (l.map fun _ => [1]) = l.length := by
  simp [pendingSum, List.map_const', List.sum_replicate_nat]

theorem pendingSum_singletons (l : List Nat) : pendingSum (l.map fun n => [n]) = l.sum := by
  simp [pendingSum, Function.comp_def]

inductive PC (V : Type) where
  | start | loaded (r : V) | fin
  deriving DecidableEq, Repr

structure Thr (V : Type) where
  val : V
  pc : PC V
  deriving DecidableEq, Repr

variable {V : Type} [DecidableEq V]

/-- one micro-step of a thread against the shared value `cur`.
    `cas = true`: the compare-and-swap loop; `cas = false`: plain `load … store`. -/
def stepThr (rank : V → Nat) (cas : Bool) (cur : V) (t : Thr V) : V × Thr V :=
  match t.pc with
  | .start => if rank cur < rank t.val then (cur, { t with pc := .loaded cur }) else (cur, { t with pc := .fin })
  | .loaded r =>
    if cas then (if cur = r then (t.val, { t with pc := .fin }) else (cur, { t with pc := .start }))
    else (t.val, { t with pc := .fin })
  | .fin => (cur, t)

def stepAt (rank : V → Nat) (cas : Bool) (cur : V) : List (Thr V) → Nat → V × List (Thr V)
  | [], _ => (cur, [])
  | t :: ts, 0 => let (c, t') := stepThr rank cas cur t; (c, t' :: ts)
  | t :: ts, i+1 => let (c, ts') := stepAt rank cas cur ts i; (c, t :: ts')

def run (rank : V → Nat) (cas : Bool) (cur : V) (ts : List (Thr V)) : List Nat → V × List (Thr V)
  | [] => (cur, ts)
  | i :: sched => let (c, ts') := stepAt rank cas cur ts i; run rank cas c ts' sched

def initThreads (vals : List V) : List (Thr V) := vals.map fun v => { val := v, pc := .start }

/-- invariant of a thread against the shared value, whose rank never falls: a loaded snapshot ranks at most the shared
    value and strictly below the thread's own value; a finished thread's value ranks at most the shared one -/
def Good (rank : V → Nat) (cur : V) (t : Thr V) : Prop :=
  match t.pc with
  | .start => True
  | .loaded r => rank r ≤ rank cur ∧ rank r < rank t.val
  | .fin => rank t.val ≤ rank cur

omit [DecidableEq V] in
theorem good_mono (rank : V → Nat) {cur cur' : V} (h : rank cur ≤ rank cur') {t : Thr V}
    (hg : Good rank cur t) : Good rank cur' t := by
  obtain ⟨v, pc⟩ := t
  cases pc <;> simp only [Good] at hg ⊢ <;> omega

theorem stepThr_spec (rank : V → Nat) (cur : V) (t : Thr V) (hg : Good rank cur t) :
    rank cur ≤ rank (stepThr rank true cur t).1 ∧ Good rank (stepThr rank true cur t).1 (stepThr rank true cur t).2 ∧
    (stepThr rank true cur t).2.val = t.val ∧
    ((stepThr rank true cur t).1 = cur ∨ (stepThr rank true cur t).1 = t.val) := by
  obtain ⟨v, pc⟩ := t
  cases pc with
  | start => simp only [stepThr]; split <;> simp [Good] <;> omega
  | loaded r =>
    simp only [Good] at hg
    simp only [stepThr, if_true]
    split
    · subst r; simp [Good]; omega
    · simp [Good]
  | fin => simpa [stepThr, Good] using hg

theorem stepAt_spec (rank : V → Nat) (cur : V) (ts : List (Thr V)) (i : Nat)
    (hg : ∀ t ∈ ts, Good rank cur t) :
    rank cur ≤ rank (stepAt rank true cur ts i).1 ∧
    (∀ t ∈ (stepAt rank true cur ts i).2, Good rank (stepAt rank true cur ts i).1 t) ∧
    (stepAt rank true cur ts i).2.map (·.val) = ts.map (·.val) ∧
    ((stepAt rank true cur ts i).1 = cur ∨ (stepAt rank true cur ts i).1 ∈ ts.map (·.val)) := by
  induction ts generalizing i with
  | nil => simp [stepAt]
  | cons t ts ih =>
    simp only [List.forall_mem_cons] at hg
    cases i with
    | zero =>
      obtain ⟨hle, hgood, hval, hcur⟩ := stepThr_spec rank cur t hg.1
      simp only [stepAt, List.forall_mem_cons, List.map_cons]
      exact ⟨hle, ⟨hgood, fun u hu => good_mono rank hle (hg.2 u hu)⟩, by rw [hval],
        hcur.imp_right fun h => List.mem_cons.mpr (.inl h)⟩
    | succ i =>
      obtain ⟨hle, hgood, hval, hcur⟩ := ih i hg.2
      simp only [stepAt, List.forall_mem_cons, List.map_cons]
      exact ⟨hle, ⟨good_mono rank hle hg.1, hgood⟩, by rw [hval], hcur.imp_right (List.mem_cons_of_mem _)⟩

theorem run_inv (rank : V → Nat) (init : V) (vals : List V) (sched : List Nat) (cur : V) (ts : List (Thr V))
    (hg : ∀ t ∈ ts, Good rank cur t) (hv : ts.map (·.val) = vals) (hm : cur = init ∨ cur ∈ vals) :
    (∀ t ∈ (run rank true cur ts sched).2, Good rank (run rank true cur ts sched).1 t) ∧
    (run rank true cur ts sched).2.map (·.val) = vals ∧
    ((run rank true cur ts sched).1 = init ∨ (run rank true cur ts sched).1 ∈ vals) := by
  induction sched generalizing cur ts with
  | nil => exact ⟨hg, hv, hm⟩
  | cons i sched ih =>
    obtain ⟨_, hgood, hval, hcur⟩ := stepAt_spec rank cur ts i hg
    refine ih _ _ hgood (hval.trans hv) ?_
    rcases hcur with h | h
    · rwa [h]
    · exact .inr (hv ▸ h)

omit [DecidableEq V] in
theorem initThreads_start (vals : List V) : ∀ t ∈ initThreads vals, t.pc = .start := by
  simp +contextual [initThreads]

/-- C10, smallest and largest query (`max_exact`, `min_exact` below; `Props.C10.totals_exact`): for every finite set of
    threads and *every* schedule: once all threads have finished, the shared value is the initial value or one of the
    recorded values, and no recorded value ranks above it. -/
theorem cas_exact (rank : V → Nat) (init : V) (vals : List V) (sched : List Nat)
    (hfin : ∀ t ∈ (run rank true init (initThreads vals) sched).2, t.pc = .fin) :
    ((run rank true init (initThreads vals) sched).1 = init ∨ (run rank true init (initThreads vals) sched).1 ∈ vals) ∧
    ∀ v ∈ vals, rank v ≤ rank (run rank true init (initThreads vals) sched).1 := by
  have h := run_inv rank init vals sched init (initThreads vals)
    (fun t ht => by simp [Good, initThreads_start vals t ht])
    (by simp [initThreads, Function.comp_def]) (.inl rfl)
  refine ⟨h.2.2, fun v hv => ?_⟩
  rw [← h.2.1] at hv
  obtain ⟨t, ht, rfl⟩ := List.mem_map.mp hv
  simpa [Good, hfin t ht] using h.1 t ht

/-- max query size: rank = id, initial 0 -/
theorem max_exact (sizes : List Nat) (sched : List Nat)
    (hfin : ∀ t ∈ (run id true 0 (initThreads sizes) sched).2, t.pc = .fin) :
    (∀ s ∈ sizes, s ≤ (run id true 0 (initThreads sizes) sched).1) ∧
    ((run id true 0 (initThreads sizes) sched).1 = 0 ∨ (run id true 0 (initThreads sizes) sched).1 ∈ sizes) :=
  (cas_exact id 0 sizes sched hfin).symm

/-- min query size with the "-1 = not set" sentinel: values are `Int`, ranked so that the sentinel is
    worst and smaller sizes are better (sizes are bounded by 2^63) -/
def minRank (v : Int) : Nat := if v < 0 then 0 else (9223372036854775808 - v).toNat

/-- the Go loop stops on `currentMin != -1 && int64(querySize) >= currentMin`; the negation of that test, under which
    it tries the swap, is the rank comparison -/
theorem minRank_is_go_test (cur size : Int) (hs : 0 ≤ size) (hs2 : size < 9223372036854775808)
    (hc : cur = -1 ∨ (0 ≤ cur ∧ cur < 9223372036854775808)) :
    (minRank cur < minRank size) ↔ (cur = -1 ∨ size < cur) := by
  unfold minRank
  split <;> split <;> omega

theorem min_exact (sizes : List Int) (sched : List Nat)
    (hfin : ∀ t ∈ (run minRank true (-1) (initThreads sizes) sched).2, t.pc = .fin) :
    (∀ s ∈ sizes, minRank s ≤ minRank (run minRank true (-1) (initThreads sizes) sched).1) ∧
    ((run minRank true (-1) (initThreads sizes) sched).1 = -1 ∨ (run minRank true (-1) (initThreads sizes) sched).1 ∈ sizes) :=
  (cas_exact minRank (-1) sizes sched hfin).symm

/-- the plain load/store protocol loses an update: sizes 9 and 5, schedule load₁ load₂ store₁ store₂ -/
theorem lost_update_counterexample :
    (run id false 0 (initThreads [9, 5]) [0, 1, 0, 1]).1 = 5 ∧
    (run id false 0 (initThreads [9, 5]) [0, 1, 0, 1]).2.all (fun t => t.pc == .fin) = true := by decide

/-- …while the CAS protocol on the same schedule retries and ends at 9 once everyone has finished -/
example : (run id true 0 (initThreads [9, 5]) [0, 1, 0, 1, 1, 1]).1 = 9 ∧
    (run id true 0 (initThreads [9, 5]) [0, 1, 0, 1, 1, 1]).2.all (fun t => t.pc == .fin) = true := by decide

/-- `n` holders, each with private state; an operation of holder `i` touches only component `i` -/
def stepHolder {S Op : Type} (f : S → Op → S) (st : Nat → S) (e : Nat × Op) : Nat → S :=
  fun j => if j = e.1 then f (st j) e.2 else st j

def opsOf {Op : Type} (i : Nat) (sched : List (Nat × Op)) : List Op :=
  (sched.filter (fun e => e.1 == i)).map (·.2)

/-- Under every interleaving, each holder's final state is what its own operations
    produce when run alone, in order -/
theorem isolation {S Op : Type} (f : S → Op → S) (sched : List (Nat × Op)) (st : Nat → S) (i : Nat) :
    (sched.foldl (stepHolder f) st) i = (opsOf i sched).foldl f (st i) := by
  induction sched generalizing st with
  | nil => rfl
  | cons e sched ih =>
    rw [List.foldl_cons, ih]
    by_cases h : e.1 = i
    · simp [opsOf, stepHolder, h]
    · simp [opsOf, stepHolder, h, Ne.symm h]

end GoSQLXModel.Metrics
