import GoSQLXModel.Model.Tables
/-!
# Node pools (pkg/sql/ast/pool.go) as a state machine

A pooled node is its type plus, per field, whether the field currently holds non-zero content
("dirty").  `put` applies the site's clearing list and pushes the node; `get` pops a node of the
requested type or constructs a fresh (all-zero) one.  `sync.Pool` is modelled as a list: which
pooled node `get` returns is irrelevant to the theorem because *every* pooled node is clean.
-/
namespace GoSQLXModel.Pool

structure PNode where
  ty : String
  fields : List (String × Bool)   -- (field, dirty)
  deriving Repr, DecidableEq

def PNode.Clean (n : PNode) : Prop := ∀ p ∈ n.fields, p.2 = false

def clear (cleared : List String) (n : PNode) : PNode :=
  { n with fields := n.fields.map fun p => (p.1, p.2 && !cleared.contains p.1) }

def fresh (s : Schema) (ty : String) : PNode :=
  { ty := ty, fields := (s.fieldNames ty).map fun f => (f, false) }

/-- a node is well-typed when its field names are those of its type in the schema -/
def WellTyped (s : Schema) (n : PNode) : Prop := ∀ p ∈ n.fields, p.1 ∈ s.fieldNames n.ty

inductive Op where
  | put (site : String) (n : PNode)      -- caller returns an arbitrary (dirty) node at a site
  | get (ty : String)

abbrev State := List PNode

def takeTy (ty : String) : State → Option (PNode × State)
  | [] => none
  | n :: rest => if n.ty == ty then some (n, rest) else
      match takeTy ty rest with
      | some (m, rest') => some (m, n :: rest')
      | none => none

/-- one step; the output is the node handed to the caller by `get` -/
def step (s : Schema) (sites : PoolSites) (st : State) : Op → State × Option PNode
  | .put site n =>
    match sites.find? (fun e => e.1 == site && e.2.1 == n.ty) with
    | some e => (clear e.2.2 n :: st, none)
    | none => (st, none)                       -- no such site for this type: node is not pooled
  | .get ty =>
    match takeTy ty st with
    | some (n, rest) => (rest, some n)
    | none => (st, some (fresh s ty))

def run (s : Schema) (sites : PoolSites) : State → List Op → State × List PNode
  | st, [] => (st, [])
  | st, op :: ops =>
    let (st', o) := step s sites st op
    let (st'', os) := run s sites st' ops
    (st'', match o with | some n => n :: os | none => os)

theorem fresh_clean (s : Schema) (ty : String) : (fresh s ty).Clean := by
  intro p hp; simp [fresh] at hp; obtain ⟨_, _, rfl⟩ := hp; rfl

theorem clear_clean {s : Schema} {cleared : List String} {n : PNode}
    (hw : WellTyped s n) (hc : ∀ f ∈ s.fieldNames n.ty, f ∈ cleared) : (clear cleared n).Clean := by
  intro p hp
  simp only [clear, List.mem_map] at hp
  obtain ⟨q, hq, rfl⟩ := hp
  have : q.1 ∈ cleared := hc _ (hw q hq)
  simp [this]

theorem takeTy_split {ty : String} {st : State} {n : PNode} {rest : State} (h : takeTy ty st = some (n, rest)) :
    ∃ pre post, st = pre ++ n :: post ∧ rest = pre ++ post ∧ n.ty = ty := by
  fun_induction takeTy ty st generalizing n rest with
  | case1 | case4 => cases h
  | case2 m st hm => cases h; exact ⟨[], st, rfl, rfl, beq_iff_eq.1 hm⟩
  | case3 m st hm k rest' hr ih =>
    cases h
    obtain ⟨pre, post, rfl, rfl, hty⟩ := ih hr
    exact ⟨m :: pre, post, rfl, rfl, hty⟩

theorem takeTy_clean {ty : String} {st : State} {n : PNode} {rest : State}
    (h : takeTy ty st = some (n, rest)) (hall : ∀ m ∈ st, m.Clean) :
    n.Clean ∧ ∀ m ∈ rest, m.Clean := by
  obtain ⟨pre, post, rfl, rfl, _⟩ := takeTy_split h
  exact ⟨hall n (by simp), fun m hm => hall m ((List.mem_append.1 hm).elim (List.mem_append_left _)
    fun h => List.mem_append_right _ (List.mem_cons_of_mem _ h))⟩

/-- the invariant: every pooled node is clean -/
def Inv (st : State) : Prop := ∀ m ∈ st, m.Clean

/-- `Covers`: every pool-return site clears every field of its element type -/
def Covers (s : Schema) (sites : PoolSites) : Prop :=
  ∀ e ∈ sites, ∀ f ∈ s.fieldNames e.2.1, f ∈ e.2.2

theorem step_inv {s : Schema} {sites : PoolSites} (hc : Covers s sites) {st : State} (hi : Inv st)
    (op : Op) (hw : ∀ site n, op = .put site n → WellTyped s n) :
    Inv (step s sites st op).1 ∧ ∀ n, (step s sites st op).2 = some n → n.Clean := by
  cases op with
  | put site n =>
    simp only [step]
    split
    · next e he =>
      have hp := List.find?_some he
      simp only [Bool.and_eq_true, beq_iff_eq] at hp
      exact ⟨List.forall_mem_cons.2
        ⟨clear_clean (hw site n rfl) (hp.2 ▸ hc e (List.mem_of_find?_eq_some he)), hi⟩, nofun⟩
    · exact ⟨hi, nofun⟩
  | get ty =>
    simp only [step]
    split
    · next n rest heq =>
      have := takeTy_clean heq hi
      exact ⟨this.2, fun m hm => Option.some.inj hm ▸ this.1⟩
    · exact ⟨hi, fun m hm => Option.some.inj hm ▸ fresh_clean s ty⟩

theorem run_cons (s : Schema) (sites : PoolSites) (st : State) (op : Op) (ops : List Op) :
    run s sites st (op :: ops) = ((run s sites (step s sites st op).1 ops).1,
      (step s sites st op).2.toList ++ (run s sites (step s sites st op).1 ops).2) := by
  simp only [run]; cases (step s sites st op).2 <;> rfl

/-- For every history of put/get over arbitrary well-typed (arbitrarily
    dirty) nodes, starting from any clean pool, every node handed out by `get` is clean. -/
theorem clean_invariant {s : Schema} {sites : PoolSites} (hc : Covers s sites) :
    ∀ (ops : List Op) (st : State), Inv st →
      (∀ site n, Op.put site n ∈ ops → WellTyped s n) →
      Inv (run s sites st ops).1 ∧ ∀ n ∈ (run s sites st ops).2, n.Clean := by
  intro ops
  induction ops with
  | nil => exact fun st hi _ => ⟨hi, nofun⟩
  | cons op ops ih =>
    intro st hi hw
    have hs := step_inv hc hi op fun site n h => hw site n (h ▸ List.mem_cons_self)
    have := ih _ hs.1 fun site n h => hw site n (List.mem_cons_of_mem _ h)
    rw [run_cons]
    exact ⟨this.1, fun n hn => (List.mem_append.1 hn).elim (fun h => hs.2 n (Option.mem_toList.1 h)) (this.2 n)⟩

end GoSQLXModel.Pool
