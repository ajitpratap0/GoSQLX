import GoSQLXModel.Model.Lex
/-!
# Incremental offset → (line, column) conversion

`toSQLPosition` keeps the last converted offset with its line and column and resumes from there when the next query is
not before it (the tokenizer's queries are: start of a token, end of that token, start of the next, … — monotone).
This file models the resuming conversion as a scan of the bytes between the cached offset and the target
(`advanceTo`), proves that it computes `locOf` (so the cache is invisible) and that a monotone sequence of queries
scans every byte at most once.

The implementation additionally jumps over whole lines through its table of line starts, so it scans *fewer* bytes
than this model: per query at most the lines skipped plus the bytes between the start of the target's line and the
target.  That refinement is not modelled; the dynamic scaling measurement of C20 is what covers it.
-/
namespace GoSQLXModel.Lex

structure PC where
  idx : Nat
  line : Nat
  col : Nat
  deriving Repr, DecidableEq

def PC.start : PC := ⟨0, 1, 1⟩

def stepByte (p : PC) (b : UInt8) : PC :=
  if b == 10 then ⟨p.idx + 1, p.line + 1, 1⟩ else ⟨p.idx + 1, p.line, p.col + (if b == 9 then 4 else 1)⟩

/-- resume from `p` and scan up to `target` -/
def advanceTo (inp : Bytes) (p : PC) (target : Nat) : PC :=
  ((inp.drop p.idx).take (target - p.idx)).foldl stepByte p

/-- bytes scanned by one query -/
def queryCost (p : PC) (target : Nat) : Nat := target - p.idx

/-- a cache entry is right when it holds the location of its offset -/
def PC.Ok (inp : Bytes) (p : PC) : Prop := (p.line, p.col) = locOf inp p.idx

theorem locOf_succ (inp : Bytes) (i : Nat) (h : i < inp.length) :
    locOf inp (i + 1) =
      if inp[i] == 10 then ((locOf inp i).1 + 1, 1) else ((locOf inp i).1, (locOf inp i).2 + (if inp[i] == 9 then 4 else 1)) := by
  unfold locOf
  simp only [List.take_succ_eq_append_getElem h, List.filter_append, List.length_append, List.reverse_append,
    List.reverse_cons, List.reverse_nil, List.nil_append, List.singleton_append, List.takeWhile_cons, List.filter_cons,
    List.filter_nil]
  by_cases hb : inp[i] = 10 <;> simp [hb] <;> omega

theorem stepByte_ok (inp : Bytes) (p : PC) (h : p.idx < inp.length) (hp : p.Ok inp) :
    (stepByte p inp[p.idx]).Ok inp ∧ (stepByte p inp[p.idx]).idx = p.idx + 1 := by
  unfold PC.Ok at hp
  unfold stepByte PC.Ok
  split
  · next hb => rw [locOf_succ inp p.idx h, if_pos hb, ← hp]; exact ⟨rfl, rfl⟩
  · next hb => rw [locOf_succ inp p.idx h, if_neg hb, ← hp]; exact ⟨rfl, rfl⟩

theorem foldl_ok (inp : Bytes) : ∀ (k : Nat) (p : PC), p.idx + k ≤ inp.length → p.Ok inp →
    (((inp.drop p.idx).take k).foldl stepByte p).Ok inp ∧ (((inp.drop p.idx).take k).foldl stepByte p).idx = p.idx + k
  | 0, p, _, hp => ⟨hp, rfl⟩
  | k+1, p, hk, hp => by
    have hlt : p.idx < inp.length := by omega
    obtain ⟨hok, hidx⟩ := stepByte_ok inp p hlt hp
    have ih := foldl_ok inp k _ (by omega) hok
    rw [hidx] at ih
    rw [List.drop_eq_getElem_cons hlt, List.take_succ_cons, List.foldl_cons]
    exact ⟨ih.1, by omega⟩

/-- **the cache is invisible**: resuming from a right entry gives exactly `locOf` of the target -/
theorem advanceTo_spec (inp : Bytes) (p : PC) (target : Nat) (hp : p.Ok inp) (h1 : p.idx ≤ target)
    (h2 : target ≤ inp.length) :
    (advanceTo inp p target).Ok inp ∧ (advanceTo inp p target).idx = target := by
  unfold advanceTo
  have := foldl_ok inp (target - p.idx) p (by omega) hp
  refine ⟨this.1, ?_⟩
  rw [this.2]; omega

theorem start_ok (inp : Bytes) : PC.start.Ok inp := rfl

/-- run a sequence of queries, resuming each from the previous one; returns the final entry and the bytes scanned -/
def runQueries (inp : Bytes) : PC → List Nat → PC × Nat
  | p, [] => (p, 0)
  | p, t :: ts =>
    let q := advanceTo inp p t
    let r := runQueries inp q ts
    (r.1, queryCost p t + r.2)

/-- **every byte is scanned at most once**: a non-decreasing sequence of queries costs the distance between the first
    cache entry and the last target -/
theorem runQueries_cost (inp : Bytes) : ∀ (ts : List Nat) (p : PC), p.Ok inp →
    (∀ t ∈ ts, t ≤ inp.length) → List.Pairwise (· ≤ ·) (p.idx :: ts) →
    (runQueries inp p ts).2 = (ts.getLast?.getD p.idx) - p.idx ∧ (runQueries inp p ts).2 ≤ inp.length
  | [], p, _, _, _ => by simp [runQueries]
  | t :: ts, p, hp, hb, hm => by
    obtain ⟨hpt, hm'⟩ := List.pairwise_cons.1 hm
    obtain ⟨hok, hidx⟩ := advanceTo_spec inp p t hp (hpt t List.mem_cons_self) (hb t List.mem_cons_self)
    have ih := runQueries_cost inp ts _ hok (fun x hx => hb x (List.mem_cons_of_mem _ hx)) (hidx.symm ▸ hm')
    -- the last target is one of the targets: it is not before `t` and not beyond the input
    have hl : ts.getLast?.getD t ∈ t :: ts := List.getLastD_eq_getLast? ▸ List.getLastD_mem_cons
    have hle := hb _ hl
    have hge : t ≤ ts.getLast?.getD t := by
      rcases List.mem_cons.mp hl with h | h
      · exact Nat.le_of_eq h.symm
      · exact (List.pairwise_cons.1 hm').1 _ h
    have := hpt t List.mem_cons_self
    simp only [runQueries, queryCost, ih.1, hidx, List.getLast?_cons, Option.getD_some]
    omega

end GoSQLXModel.Lex
