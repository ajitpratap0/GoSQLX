import GoSQLXModel.Model.WalkVals
import GoSQLXModel.Model.CharClass
import GoSQLXModel.Model.Tables
/-!
# The AST injection scanner (pkg/sql/security/scanner.go, tree part)

`Scan` inspects every node the traversal reaches (`ast.Inspect`): at each BinaryExpression it reports a
tautology and OR-with-tautology, at each FunctionCall a time-delay / dangerous function, at each UNION a NULL-column
probe; each finding is kept iff its severity reaches the scanner's threshold; counts are recomputed from the list.
-/
namespace GoSQLXModel.Scan

inductive Sev where | low | medium | high | critical
  deriving DecidableEq, Repr

def Sev.rank : Sev → Nat | .low => 1 | .medium => 2 | .high => 3 | .critical => 4

structure Finding where
  pattern : String
  sev : Sev
  deriving DecidableEq, Repr

/-- `fmt.Sprintf("%v", value)` for the values a literal can hold -/
def renderValue : Val → String
  | .str s => s
  | .int n => toString n
  | .bool b => if b then "true" else "false"
  | .nil => "<nil>"
  | _ => "?"

def upperStr (cls : CharClass) (s : String) : String := String.ofList (s.toList.map cls.toUpper)

def fieldOf (fs : Fields) (k : String) : Val := (fs.get? k).getD .nil
def strOf : Val → String | .str s => s | _ => ""

def isTautology (cls : CharClass) : Val → Bool
  | .node "BinaryExpression" fs =>
    let op := upperStr cls (strOf (fieldOf fs "Operator"))
    if op != "=" && op != "==" then false
    else
      match fieldOf fs "Left", fieldOf fs "Right" with
      | .node "LiteralValue" l, .node "LiteralValue" r => renderValue (fieldOf l "Value") == renderValue (fieldOf r "Value")
      | .node "Identifier" l, .node "Identifier" r => strOf (fieldOf l "Name") == strOf (fieldOf r "Name")
      | _, _ => false
  | _ => false

/-- the scanner's name tables (regenerated from scanner.go into Gen/ScanTables.lean) -/
structure Cfg where
  timeFuncs : List String
  dangerousFuncs : List String
  sysPrefixes : List String
  sysNames : List String

def lowerStr (cls : CharClass) (s : String) : String := String.ofList (s.toList.map cls.toLower)

def isSystemTable (cls : CharClass) (cfg : Cfg) (name : String) : Bool :=
  let l := lowerStr cls name
  cfg.sysNames.contains l || cfg.sysPrefixes.any fun p => p.toList.isPrefixOf l.toList

def isNullColumn (cls : CharClass) : Val → Bool
  | .node "Identifier" fs => upperStr cls (strOf (fieldOf fs "Name")) == "NULL"
  | .node "LiteralValue" fs =>
    (match fieldOf fs "Value" with | .nil => true | _ => false) || upperStr cls (strOf (fieldOf fs "Type")) == "NULL"
  | _ => false

/-- findings produced *at* one node (not below it), unfiltered, in the order the code appends them -/
def findingsAt (cls : CharClass) (cfg : Cfg) : Val → List Finding
  | .node "BinaryExpression" fs =>
    let self := Val.node "BinaryExpression" fs
    (if isTautology cls self then [⟨"TAUTOLOGY", .critical⟩] else []) ++
    (if upperStr cls (strOf (fieldOf fs "Operator")) == "OR" then
      (match fieldOf fs "Right" with
       | .node "BinaryExpression" r => if isTautology cls (.node "BinaryExpression" r) then [⟨"TAUTOLOGY", .critical⟩] else []
       | _ => []) ++
      (match fieldOf fs "Left" with
       | .node "BinaryExpression" l => if isTautology cls (.node "BinaryExpression" l) then [⟨"TAUTOLOGY", .critical⟩] else []
       | _ => [])
     else [])
  | .node "FunctionCall" fs =>
    let name := upperStr cls (strOf (fieldOf fs "Name"))
    (if cfg.timeFuncs.contains name then [⟨"TIME_BASED", .high⟩] else []) ++
    (if cfg.dangerousFuncs.contains name then [⟨"OUT_OF_BAND", .critical⟩] else [])
  | .node "SetOperation" fs =>
    if upperStr cls (strOf (fieldOf fs "Operator")) == "UNION" then
      match fieldOf fs "Right" with
      | .node "SelectStatement" sel =>
        let cols := match fieldOf sel "Columns" with | .list xs => xs.toList | _ => []
        (if (cols.filter (isNullColumn cls)).length ≥ 2 then [⟨"UNION_BASED", .high⟩] else []) ++
        (let tn := strOf (fieldOf sel "TableName")
         if tn != "" && isSystemTable cls cfg tn then [⟨"UNION_BASED", .critical⟩] else [])
      | _ => []
    else []
  | _ => []

/-- The traversal the scanner performs: Children() plus the callback's explicit descents
    (`s.scanNode(e.<head>.<rest>, …)`); a descent into `<head>.<rest>` is recorded as the field `<head>`
    (`Props.C16.gen_extra_descents_cover` checks that `<rest>` is all of `<head>`'s node-holding content). -/
def scanChildren (t : ChildrenTbl) (extra : List (String × List (String × String))) : ChildrenTbl :=
  t.map fun (ty, fs) =>
    match extra.find? (fun e => e.1 == ty) with
    | some e => (ty, fs ++ e.2.map (·.1))
    | none => (ty, fs)

/-- the scanner's traversal mentions every field Children() mentions -/
theorem get_scanChildren (t : ChildrenTbl) (extra : List (String × List (String × String))) (ty f : String)
    (h : f ∈ t.get ty) : f ∈ (scanChildren t extra).get ty := by
  unfold ChildrenTbl.get scanChildren at *
  rw [List.find?_map]
  -- `scanChildren` keeps every key, so the look-up composed with it is the look-up itself (the lambda is written with the
  -- projections its destructuring pattern unfolds to)
  have e : ((fun e : String × List String => e.1 == ty) ∘ fun (x : String × List String) =>
      match extra.find? (fun e => e.1 == x.1) with
      | some e => (x.1, x.2 ++ e.2.map (·.1))
      | none => (x.1, x.2)) = fun e => e.1 == ty := by
    funext x; dsimp only [Function.comp]; split <;> rfl
  rw [e]
  cases hf : t.find? (fun e => e.1 == ty) with
  | none => rw [hf] at h; cases h
  | some x =>
    rw [hf] at h
    dsimp only [Option.map]
    split
    · exact List.mem_append_left _ h
    · exact h

def keep (min : Sev) (f : Finding) : Bool := min.rank ≤ f.sev.rank

/-- `Scanner.Scan` for a tree, with the Children() table `t` driving the traversal -/
def scan (cls : CharClass) (cfg : Cfg) (t : ChildTable) (min : Sev) (tree : Val) : List Finding :=
  (tree.walkVals t none).flatMap fun n => (findingsAt cls cfg n).filter (keep min)

structure Counts where
  total : Nat
  critical : Nat
  high : Nat
  medium : Nat
  low : Nat
  deriving DecidableEq, Repr

def counts (fs : List Finding) : Counts :=
  { total := fs.length,
    critical := (fs.filter (·.sev == .critical)).length,
    high := (fs.filter (·.sev == .high)).length,
    medium := (fs.filter (·.sev == .medium)).length,
    low := (fs.filter (·.sev == .low)).length }

/-- a scan is the unfiltered findings of the visited nodes, filtered: every threshold fact is one about `List.filter` -/
theorem scan_eq_filter (cls : CharClass) (cfg : Cfg) (t : ChildTable) (min : Sev) (tree : Val) :
    scan cls cfg t min tree = ((tree.walkVals t none).flatMap (findingsAt cls cfg)).filter (keep min) :=
  List.filter_flatMap.symm

theorem keep_low (f : Finding) : keep .low f = true := by
  cases f with | mk p s => cases s <;> rfl

/-- C16: raising the minimum severity removes exactly the findings below it -/
theorem threshold (cls : CharClass) (cfg : Cfg) (t : ChildTable) (min : Sev) (tree : Val) :
    scan cls cfg t min tree = (scan cls cfg t .low tree).filter (keep min) := by
  rw [scan_eq_filter, scan_eq_filter cls cfg t .low, List.filter_eq_self.2 fun f _ => keep_low f]

/-- C16 (`Props.C16.counts_agree`): the total and per-severity counts equal the findings listed -/
theorem counts_consistent (fs : List Finding) :
    (counts fs).total = fs.length ∧
    (counts fs).critical + (counts fs).high + (counts fs).medium + (counts fs).low = fs.length := by
  refine ⟨rfl, ?_⟩
  induction fs with
  | nil => rfl
  | cons f fs ih =>
    obtain ⟨p, s⟩ := f
    simp only [counts, List.length_cons, List.filter_cons] at ih ⊢
    cases s <;> simp only [reduceCtorEq, beq_iff_eq, if_true, if_false, List.length_cons] <;> omega

/-- C16: for every tree whose node fields are covered by the Children() table (C14), a
    payload occurring *anywhere* in the tree — whatever clause, sub-query, CTE or operand position — contributes
    its findings to the scan result. -/
theorem context_closed (cls : CharClass) (cfg : Cfg) (t : ChildTable) (min : Sev) (tree payload : Val) (f : Finding)
    (hcov : tree.covered t none = true) (hin : payload ∈ tree.nodeVals)
    (hf : f ∈ findingsAt cls cfg payload) (hs : keep min f = true) : f ∈ scan cls cfg t min tree := by
  rw [scan_eq_filter, Val.walkVals_complete t none tree hcov]
  exact List.mem_filter.2 ⟨List.mem_flatMap.2 ⟨payload, hin, hf⟩, hs⟩

/-- nothing is reported that no node of the tree produces -/
theorem scan_sound (cls : CharClass) (cfg : Cfg) (t : ChildTable) (min : Sev) (tree : Val) (f : Finding)
    (h : f ∈ scan cls cfg t min tree) : ∃ n ∈ tree.walkVals t none, f ∈ findingsAt cls cfg n := by
  rw [scan_eq_filter] at h
  exact List.mem_flatMap.1 (List.mem_filter.1 h).1

end GoSQLXModel.Scan
