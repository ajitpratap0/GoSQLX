import GoSQLXModel.Model.Loops
/-!
# C12: recovery over semicolon-separated segments

A script is a list of segments `(start, semi, good)`: the segment's first token, the position of the
semicolon that terminates it, and whether it is well-formed.
* good: `parseStatement` started at `start` succeeds and stops exactly at the semicolon;
* bad : it fails somewhere inside the segment without consuming the semicolon, and the segment contains
  no semicolon / statement-starting keyword / EOF after its first token.
`recovery_segments`: recovery returns exactly the good segments' statements in order and one error per bad
segment, each error naming its own segment's first token (`TokenIdx = start`).
-/
namespace GoSQLXModel.Loops

structure Seg where
  start : Nat
  semi : Nat
  good : Bool
  deriving Repr

variable (I : Input)

/-- well-formedness of one segment w.r.t. the token kinds and the statement oracle -/
def SegOK (s : Seg) : Prop :=
  s.start < s.semi ∧ s.semi < I.n ∧ I.kind s.semi = .semi ∧
  (I.kind s.start ≠ .semi ∧ I.kind s.start ≠ .eof) ∧
  (∀ j, s.start < j → j < s.semi → I.kind j = .other) ∧
  (if s.good then (I.stmt s.start).ok = true ∧ (I.stmt s.start).stop = s.semi
   else (I.stmt s.start).ok = false ∧ s.start ≤ (I.stmt s.start).stop ∧ (I.stmt s.start).stop ≤ s.semi)

/-- consecutive segments: each starts right after the previous one's semicolon; after the last one the loop ends -/
def Chain : Nat → List Seg → Prop
  | pos, [] => more I pos = false
  | pos, s :: rest => s.start = pos ∧ SegOK I s ∧ Chain (s.semi + 1) rest

/-- scanning `other` tokens up to a semicolon: synchronize stops right after the semicolon -/
theorem sync_scan (q : Nat) (hq : q < I.n) (hsemi : I.kind q = .semi) (f p : Nat) (hp : p ≤ q)
    (ho : ∀ j, p ≤ j → j < q → I.kind j = .other) (hf : q - p + 1 ≤ f) : sync I f p = some (q + 1) := by
  have hk : p = q ∨ I.kind p = .other := (Nat.eq_or_lt_of_le hp).imp_right (ho p (Nat.le_refl p))
  fun_induction sync I f p with
  | case1 => omega
  | case2 _ p _ hs =>
    rcases hk with rfl | h
    · rfl
    · cases hs.symm.trans h
  | case3 _ p _ _ hs =>
    rcases hk with rfl | h
    · cases hs.symm.trans hsemi
    · cases hs.symm.trans h
  | case4 _ p _ hs _ ih =>
    have hlt : p < q := (Nat.eq_or_lt_of_le hp).resolve_left fun e => hs (e ▸ hsemi)
    exact ih hlt (fun j h1 h2 => ho j (Nat.le_of_succ_le h1) h2) (by omega)
      ((Nat.eq_or_lt_of_le hlt).imp_right (ho _ (Nat.le_succ p)))
  | case5 _ p hm =>
    exact absurd ((more_iff I).2 ⟨by omega, by rcases hk with rfl | h <;> simp [*]⟩) hm

/-- C12: recovery returns precisely the statements of the well-formed segments, in order,
    and one error per malformed segment, each naming a token (the first) inside its own segment. -/
theorem recovery_segments :
    ∀ (segs : List Seg) (pos f : Nat) (st er : List Nat), Chain I pos segs → I.n + 2 ≤ f + pos → 0 < f →
      recLoop I f pos st er =
        some (st ++ (segs.filter (·.good)).map (·.start), er ++ (segs.filter (fun s => !s.good)).map (·.start)) := by
  intro segs
  induction segs with
  | nil =>
    rintro pos (_ | g) st er hc hf hf0
    · cases hf0
    · simp [recLoop, show more I pos = false from hc]
  | cons s rest ih =>
    rintro pos (_ | g) st er ⟨rfl, ⟨h1, h2, h3, ⟨h4a, h4b⟩, h5, h6⟩, hrest⟩ hf hf0
    · cases hf0
    have hm : more I s.start = true := (more_iff I).2 ⟨Nat.lt_trans h1 h2, h4b⟩
    have ih := fun st er => ih (s.semi + 1) g st er hrest (by omega) (by omega)
    cases hg : s.good with
    | true =>
      simp only [hg, if_true] at h6
      simp only [recLoop, hm, h4a, h6.1, h6.2, h3, if_true, if_false, ih, List.filter_cons, hg, List.map_cons,
        List.append_assoc, List.singleton_append, Bool.not_true, Bool.false_eq_true]
    | false =>
      simp only [hg, Bool.false_eq_true, if_false] at h6
      -- the resynchronisation starts inside the segment, after its first token
      generalize hp1 : (if (I.stmt s.start).stop = s.start then s.start + 1 else (I.stmt s.start).stop) = p1
      have hb : s.start < p1 ∧ p1 ≤ s.semi := by subst hp1; split <;> omega
      have hsync : sync I g p1 = some (s.semi + 1) :=
        sync_scan I s.semi h2 h3 g p1 hb.2 (fun j hj1 hj2 => h5 j (Nat.lt_of_lt_of_le hb.1 hj1) hj2) (by omega)
      simp only [recLoop, hm, h4a, h6.1, hp1, hsync, if_true, if_false, ih, List.filter_cons, hg, List.map_cons,
        List.append_assoc, List.singleton_append, Bool.not_false, Bool.false_eq_true]

end GoSQLXModel.Loops
