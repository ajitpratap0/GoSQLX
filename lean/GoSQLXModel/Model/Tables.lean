/-!
# Table-shaped facts about pkg/sql/ast and the decidable checks over them

The tables themselves are regenerated from /repo on every run (`Gen/AstTables.lean`);
everything here is generic in the table.
-/
namespace GoSQLXModel

/-- (name, element type, kind ∈ {"iface","struct","other"}, repeated) -/
abbrev FieldInfo := String × String × String × Bool
/-- (type name, implements ast.Node, fields) -/
abbrev Schema := List (String × Bool × List FieldInfo)

def Schema.fieldsOf (s : Schema) (ty : String) : List FieldInfo :=
  match s.find? (fun e => e.1 == ty) with
  | some e => e.2.2
  | none => []

def Schema.isNode (s : Schema) (ty : String) : Bool :=
  match s.find? (fun e => e.1 == ty) with
  | some e => e.2.1
  | none => false

def Schema.fieldNames (s : Schema) (ty : String) : List String := (s.fieldsOf ty).map (·.1)

/-- can a field hold (directly or through helper structs) a value implementing ast.Node?
    `fuel` bounds the descent through by-value helper structs (≥ number of types suffices). -/
def Schema.nodeHolding (s : Schema) : Nat → FieldInfo → Bool
  | 0, _ => false
  | fuel+1, (_, elem, kind, _) =>
    if kind == "iface" then true
    else if kind == "struct" then
      s.isNode elem || (s.fieldsOf elem).any (s.nodeHolding fuel)
    else false

abbrev ChildrenTbl := List (String × List String)
def ChildrenTbl.get (t : ChildrenTbl) (ty : String) : List String :=
  match t.find? (fun e => e.1 == ty) with
  | some e => e.2
  | none => []

/-- C14 table check: node-holding fields of Node types that the type's Children() never mentions -/
def childOffenders (s : Schema) (t : ChildrenTbl) : List (String × String) :=
  s.flatMap fun (ty, isNode, fs) =>
    if isNode then
      (fs.filter fun f => s.nodeHolding (s.length + 1) f && !(t.get ty).contains f.1).map fun f => (ty, f.1)
    else []

/-- (site, element type, cleared fields) -/
abbrev PoolSites := List (String × String × List String)

/-- C09 table check: fields of a pooled type that a pool-return site leaves untouched -/
def poolOffenders (s : Schema) (sites : PoolSites) : List (String × String) :=
  sites.flatMap fun (site, ty, cleared) =>
    ((s.fieldNames ty).filter fun f => !cleared.contains f).map fun f => (site, f)

theorem poolOffenders_nil {s : Schema} {sites : PoolSites} (h : poolOffenders s sites = []) :
    ∀ e ∈ sites, ∀ f ∈ s.fieldNames e.2.1, f ∈ e.2.2 := by
  intro e he f hf
  simpa using List.filter_eq_nil_iff.mp (List.map_eq_nil_iff.mp (List.flatMap_eq_nil_iff.mp h e he)) f hf

/-- an offender is a field that the type's Children() does not mention, of a Node type of the schema, and node-holding -/
theorem mem_childOffenders {s : Schema} {t : ChildrenTbl} {ty f : String} :
    (ty, f) ∈ childOffenders s t ↔
      f ∉ t.get ty ∧ ∃ fs g, (ty, true, fs) ∈ s ∧ g ∈ fs ∧ g.1 = f ∧ s.nodeHolding (s.length + 1) g = true := by
  unfold childOffenders
  rw [List.mem_flatMap]
  constructor
  · rintro ⟨⟨ty', isNode, fs⟩, hs, h⟩
    dsimp only at h
    split at h
    · rename_i hn
      obtain ⟨g, hg, e⟩ := List.mem_map.1 h
      obtain ⟨rfl, rfl⟩ := Prod.mk.inj e
      obtain ⟨hg, hp⟩ := List.mem_filter.1 hg
      simp only [Bool.and_eq_true, Bool.not_eq_true', List.contains_eq_mem, decide_eq_false_iff_not] at hp
      exact ⟨hp.2, fs, g, hn ▸ hs, hg, rfl, hp.1⟩
    · cases h
  · rintro ⟨hf, fs, g, hs, hg, rfl, hh⟩
    refine ⟨(ty, true, fs), hs, ?_⟩
    dsimp only
    rw [if_pos rfl]
    exact List.mem_map.2 ⟨g, List.mem_filter.2 ⟨hg, by simp [hh, hf]⟩, rfl⟩

/-- a table that mentions more has fewer offenders -/
theorem childOffenders_mono {s : Schema} {t t' : ChildrenTbl} (h : ∀ ty f, f ∈ t.get ty → f ∈ t'.get ty) {o : String × String}
    (ho : o ∈ childOffenders s t') : o ∈ childOffenders s t :=
  mem_childOffenders.2 ⟨fun hf => (mem_childOffenders.1 ho).1 (h _ _ hf), (mem_childOffenders.1 ho).2⟩

end GoSQLXModel
