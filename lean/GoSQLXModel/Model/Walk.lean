import GoSQLXModel.Model.Val
/-!
# Walk / Inspect over `Val`, driven by a Children() table

Mirrors `pkg/sql/ast/visitor.go`: `Walk(v, n)` visits `n`, then walks every element of
`n.Children()`.  `Children()` of a node of type `ty` returns the node-valued content of the field
*paths* listed for `ty` in the table: a plain name (`Where`) allows the whole field; a dotted path
(`Action.Where`) allows that field of a by-value helper struct (`allowed` carries the remaining
suffixes while the walk is inside the helper struct).
-/
namespace GoSQLXModel

abbrev ChildTable := String → List String

/-- the suffixes of the allowed paths that start with `n.` -/
def subPaths (l : List String) (n : String) : List String :=
  l.filterMap fun p => if (n ++ ".").isPrefixOf p then some ((p.drop (n.length + 1)).toString) else none

/-- what is allowed below field `n`: `none` = everything, `some []` = nothing -/
def allowBelow (allowed : Option (List String)) (n : String) : Option (List String) :=
  match allowed with
  | none => none
  | some l => if l.contains n then none else some (subPaths l n)

mutual
def Val.walk (t : ChildTable) : Option (List String) → Val → List String
  | _, .node ty fs => ty :: fs.walk t (some (t ty))
  | a, .struct fs => fs.walk t a
  | a, .list xs => xs.walk t a
  | _, _ => []
def Vals.walk (t : ChildTable) : Option (List String) → Vals → List String
  | _, .nil => [] | a, .cons v vs => v.walk t a ++ vs.walk t a
def Fields.walk (t : ChildTable) : Fields → Option (List String) → List String
  | .nil, _ => []
  | .cons n v fs, allowed =>
    (match allowBelow allowed n with
     | some [] => []
     | a => v.walk t a) ++ fs.walk t allowed
end

/-- `Children()` returns a node value only when its whole field is allowed; `Val.walk` enters it either way, so
    `covered` asks for this -/
def wholeAllowed : Option (List String) → Bool
  | none => true
  | some _ => false

-- the table mentions every field path of every node of `v` that holds any node
mutual
def Val.covered (t : ChildTable) : Option (List String) → Val → Bool
  | a, .node ty fs => wholeAllowed a && fs.covered t (some (t ty))
  | a, .struct fs => fs.covered t a
  | a, .list xs => xs.covered t a
  | _, _ => true
def Vals.covered (t : ChildTable) : Option (List String) → Vals → Bool
  | _, .nil => true | a, .cons v vs => v.covered t a && vs.covered t a
def Fields.covered (t : ChildTable) : Fields → Option (List String) → Bool
  | .nil, _ => true
  | .cons n v fs, allowed =>
    (v.nodes.isEmpty ||
      (match allowBelow allowed n with
       | some [] => false
       | a => v.covered t a)) && fs.covered t allowed
end

end GoSQLXModel
