import GoSQLXModel.Model.Walk
/-! Walk / reachability returning the node *values* (needed by analyses built on traversal: scan, extract). -/
namespace GoSQLXModel

mutual
def Val.nodeVals : Val → List Val
  | .node ty fs => .node ty fs :: fs.nodeVals
  | .struct fs => fs.nodeVals
  | .list xs => xs.nodeVals
  | _ => []
def Vals.nodeVals : Vals → List Val
  | .nil => [] | .cons v vs => v.nodeVals ++ vs.nodeVals
def Fields.nodeVals : Fields → List Val
  | .nil => [] | .cons _ v fs => v.nodeVals ++ fs.nodeVals
end

mutual
def Val.walkVals (t : ChildTable) : Option (List String) → Val → List Val
  | _, .node ty fs => .node ty fs :: fs.walkVals t (some (t ty))
  | a, .struct fs => fs.walkVals t a
  | a, .list xs => xs.walkVals t a
  | _, _ => []
def Vals.walkVals (t : ChildTable) : Option (List String) → Vals → List Val
  | _, .nil => [] | a, .cons v vs => v.walkVals t a ++ vs.walkVals t a
def Fields.walkVals (t : ChildTable) : Fields → Option (List String) → List Val
  | .nil, _ => []
  | .cons n v fs, allowed =>
    (match allowBelow allowed n with
     | some [] => []
     | a => v.walkVals t a) ++ fs.walkVals t allowed
end

/-- Induction over a value tree with one motive: a field list stands for the helper struct that has these fields, a
    value list for the slice. Every traversal here looks through `.struct` and `.list` (`fs.walk t a` *is*
    `(Val.struct fs).walk t a`, by `rfl`), so the `Vals.` and `Fields.` form of a theorem is an instance of its `Val.` form. -/
theorem Val.induct3 {P : Val → Prop}
    (str : ∀ s, P (.str s)) (int : ∀ n, P (.int n)) (bool : ∀ b, P (.bool b)) (nil : P .nil)
    (node : ∀ ty fs, P (.struct fs) → P (.node ty fs))
    (snil : P (.struct .nil)) (scons : ∀ n v fs, P v → P (.struct fs) → P (.struct (.cons n v fs)))
    (lnil : P (.list .nil)) (lcons : ∀ v vs, P v → P (.list vs) → P (.list (.cons v vs))) : ∀ v, P v :=
  @Val.rec P (fun vs => P (.list vs)) (fun fs => P (.struct fs))
    str int bool nil (fun ty _ ih => node ty _ ih) (fun _ ih => ih) (fun _ ih => ih)
    lnil (fun v vs => lcons v vs) snil (fun n v fs => scons n v fs)

def tyOf : Val → String
  | .node ty _ => ty
  | _ => ""

theorem Val.nodes_eq_map (v : Val) : v.nodes = v.nodeVals.map tyOf := by
  induction v using Val.induct3 with
  | str | int | bool | nil | snil | lnil => rfl
  | node ty fs ih => exact congrArg (ty :: ·) ih
  | scons _ _ _ ih1 ih2 | lcons _ _ ih1 ih2 => exact (congr (congrArg _ ih1) ih2).trans List.map_append.symm

theorem Val.walk_eq_map (t : ChildTable) (a : Option (List String)) (v : Val) : v.walk t a = (v.walkVals t a).map tyOf := by
  induction v using Val.induct3 generalizing a with
  | str | int | bool | nil | snil | lnil => rfl
  | node ty fs ih => exact congrArg (ty :: ·) (ih _)
  | scons n v fs ihv ihfs =>
    simp only [Val.walk, Fields.walk, Val.walkVals, Fields.walkVals, List.map_append]
    refine congr (congrArg _ ?_) (ihfs a)
    generalize allowBelow a n = o
    exact match o with
      | none => ihv _
      | some [] => rfl
      | some (_ :: _) => ihv _
  | lcons v vs ihv ihvs => exact (congr (congrArg _ (ihv a)) (ihvs a)).trans List.map_append.symm

theorem Val.walkVals_sublist (t : ChildTable) : ∀ (a : Option (List String)) (v : Val), (v.walkVals t a).Sublist v.nodeVals := by
  intro a v
  induction v using Val.induct3 generalizing a with
  | str | int | bool | nil | snil | lnil => exact .refl _
  | node ty fs ih => exact (ih _).cons_cons _
  | scons n v fs ihv ihfs =>
    simp only [Val.walkVals, Fields.walkVals, Val.nodeVals, Fields.nodeVals]
    apply List.Sublist.append _ (ihfs a)
    split
    · exact List.nil_sublist _
    · exact ihv _
  | lcons v vs ihv ihvs => exact (ihv a).append (ihvs a)

theorem Vals.walkVals_sublist (t : ChildTable) : ∀ (a : Option (List String)) (vs : Vals), (vs.walkVals t a).Sublist vs.nodeVals :=
  fun a vs => Val.walkVals_sublist t a (.list vs)
theorem Fields.walkVals_sublist (t : ChildTable) :
    ∀ (fs : Fields) (a : Option (List String)), (fs.walkVals t a).Sublist fs.nodeVals :=
  fun fs a => Val.walkVals_sublist t a (.struct fs)

theorem Val.walk_sound (t : ChildTable) : ∀ (a : Option (List String)) (v : Val), (v.walk t a).Sublist v.nodes := by
  intro a v
  rw [v.walk_eq_map, v.nodes_eq_map]
  exact (v.walkVals_sublist t a).map _
theorem Vals.walk_sound (t : ChildTable) : ∀ (a : Option (List String)) (vs : Vals), (vs.walk t a).Sublist vs.nodes :=
  fun a vs => Val.walk_sound t a (.list vs)
theorem Fields.walk_sound (t : ChildTable) :
    ∀ (fs : Fields) (a : Option (List String)), (fs.walk t a).Sublist fs.nodes :=
  fun fs a => Val.walk_sound t a (.struct fs)

theorem Val.nodeVals_nil_of_nodes_nil (v : Val) (h : v.nodes = []) : v.nodeVals = [] :=
  List.map_eq_nil_iff.1 (v.nodes_eq_map ▸ h)
theorem Fields.nodeVals_nil_of_nodes_nil : ∀ fs : Fields, fs.nodes = [] → fs.nodeVals = [] :=
  fun fs => Val.nodeVals_nil_of_nodes_nil (.struct fs)

theorem Val.walkVals_nil_of_nodes_nil (t : ChildTable) (a : Option (List String)) (v : Val) (h : v.nodes = []) :
    v.walkVals t a = [] :=
  List.eq_nil_of_sublist_nil (v.nodeVals_nil_of_nodes_nil h ▸ v.walkVals_sublist t a)
theorem Vals.walkVals_nil_of_nodes_nil (t : ChildTable) : ∀ (a : Option (List String)) (vs : Vals), vs.nodes = [] → vs.walkVals t a = [] :=
  fun a vs => Val.walkVals_nil_of_nodes_nil t a (.list vs)
theorem Fields.walkVals_nil_of_nodes_nil (t : ChildTable) : ∀ (fs : Fields) (a : Option (List String)), fs.nodes = [] → fs.walkVals t a = [] :=
  fun fs a => Val.walkVals_nil_of_nodes_nil t a (.struct fs)

theorem Fields.walk_nil_of_nodes_nil (t : ChildTable) : ∀ (fs : Fields) (a : Option (List String)), fs.nodes = [] → fs.walk t a = [] :=
  fun fs a h => List.eq_nil_of_sublist_nil (h ▸ fs.walk_sound t a)

-- a node met while only part of a helper struct is allowed is not returned by Children(); to keep `walk`
--     total and simple such a node is still *entered* by `walk` and `walkVals`, so `covered` demands `wholeAllowed` there
theorem Val.walkVals_complete (t : ChildTable) : ∀ (a : Option (List String)) (v : Val), v.covered t a = true → v.walkVals t a = v.nodeVals := by
  intro a v h
  induction v using Val.induct3 generalizing a with
  | str | int | bool | nil | snil | lnil => rfl
  | node ty fs ih =>
    simp only [Val.covered, Bool.and_eq_true] at h
    exact congrArg _ (ih _ h.2)
  | scons n v fs ihv ihfs =>
    simp only [Val.covered, Fields.covered, Bool.and_eq_true, Bool.or_eq_true] at h
    simp only [Val.walkVals, Fields.walkVals, Val.nodeVals, Fields.nodeVals]
    refine congr (congrArg _ ?_) (ihfs a h.2)
    rcases h.1 with he | hc
    · -- no node below `v`: nothing to visit, entered or not
      have hn : v.nodes = [] := List.isEmpty_iff.1 he
      rw [v.nodeVals_nil_of_nodes_nil hn]
      split
      · rfl
      · exact v.walkVals_nil_of_nodes_nil t _ hn
    · exact match allowBelow a n, hc with
        | none, hc => ihv _ hc
        | some (_ :: _), hc => ihv _ hc
  | lcons v vs ihv ihvs =>
    simp only [Val.covered, Vals.covered, Bool.and_eq_true] at h
    simp only [Val.walkVals, Vals.walkVals, Val.nodeVals, Vals.nodeVals, ihv a h.1]
    exact congrArg _ (ihvs a h.2)

theorem Vals.walkVals_complete (t : ChildTable) : ∀ (a : Option (List String)) (vs : Vals), vs.covered t a = true → vs.walkVals t a = vs.nodeVals :=
  fun a vs => Val.walkVals_complete t a (.list vs)
theorem Fields.walkVals_complete (t : ChildTable) :
    ∀ (fs : Fields) (a : Option (List String)), fs.covered t a = true → fs.walkVals t a = fs.nodeVals :=
  fun fs a => Val.walkVals_complete t a (.struct fs)

theorem Val.walk_complete (t : ChildTable) : ∀ (a : Option (List String)) (v : Val), v.covered t a = true → v.walk t a = v.nodes := by
  intro a v h
  rw [v.walk_eq_map, v.nodes_eq_map, v.walkVals_complete t a h]
theorem Vals.walk_complete (t : ChildTable) : ∀ (a : Option (List String)) (vs : Vals), vs.covered t a = true → vs.walk t a = vs.nodes :=
  fun a vs => Val.walk_complete t a (.list vs)
theorem Fields.walk_complete (t : ChildTable) :
    ∀ (fs : Fields) (a : Option (List String)), fs.covered t a = true → fs.walk t a = fs.nodes :=
  fun fs a => Val.walk_complete t a (.struct fs)

theorem Val.nodeVals_isNode : ∀ (v m : Val), m ∈ v.nodeVals → ∃ ty fs, m = .node ty fs := by
  intro v m h
  induction v using Val.induct3 with
  | str | int | bool | nil | snil | lnil => cases h
  | node ty fs ih => exact (List.mem_cons.1 h).elim (fun e => ⟨ty, fs, e⟩) ih
  | scons _ _ _ ih1 ih2 | lcons _ _ ih1 ih2 => exact (List.mem_append.1 h).elim ih1 ih2
theorem Vals.nodeVals_isNode : ∀ (vs : Vals) (m : Val), m ∈ vs.nodeVals → ∃ ty fs, m = .node ty fs :=
  fun vs => Val.nodeVals_isNode (.list vs)
theorem Fields.nodeVals_isNode : ∀ (fs : Fields) (m : Val), m ∈ fs.nodeVals → ∃ ty fs', m = .node ty fs' :=
  fun fs => Val.nodeVals_isNode (.struct fs)

theorem Val.nodeVals_trans : ∀ (v n m : Val), n ∈ v.nodeVals → m ∈ n.nodeVals → m ∈ v.nodeVals := by
  intro v n m hn hm
  induction v using Val.induct3 with
  | str | int | bool | nil | snil | lnil => cases hn
  | node ty fs ih => exact (List.mem_cons.1 hn).elim (fun e => e ▸ hm) fun h => List.mem_cons_of_mem _ (ih h)
  | scons _ _ _ ih1 ih2 | lcons _ _ ih1 ih2 => exact List.mem_append.2 ((List.mem_append.1 hn).imp ih1 ih2)
theorem Fields.nodeVals_trans : ∀ (fs : Fields) (n m : Val), n ∈ fs.nodeVals → m ∈ n.nodeVals → m ∈ fs.nodeVals :=
  fun fs => Val.nodeVals_trans (.struct fs)

end GoSQLXModel
