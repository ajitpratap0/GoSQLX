import GoSQLXModel.Model.Batch
/-!
# Batch calls: the accumulator loop equals the obvious specification, in both directions

`spec` is the specification one would write down: the results of the individual calls in order, or the index and
error of the first call that fails.  `batch_eq_spec` shows the Go-shaped loop (running index, accumulator) computes
it from every starting index and accumulator; `batch_err_iff` is the two-sided form of `batch_err_first` (if some
call fails, the batch *does* fail, at the first such index and with that call's own error); `batch_append` says a
batch over `xs ++ ys` is the batch over `xs` followed, if that succeeded, by the batch over `ys` with shifted indices.
-/
namespace GoSQLXModel.Batch

def spec {α β ε : Type} (f : α → Except ε β) : List α → Except (Nat × ε) (List β)
  | [] => .ok []
  | q :: qs =>
    match f q with
    | .error e => .error (0, e)
    | .ok r =>
      match spec f qs with
      | .ok rs => .ok (r :: rs)
      | .error (k, e) => .error (k + 1, e)

/-- shift a specification result to a loop state -/
def place {β ε : Type} (i : Nat) (acc : List β) : Except (Nat × ε) (List β) → Except (Nat × ε) (List β)
  | .ok rs => .ok (acc ++ rs)
  | .error (k, e) => .error (i + k, e)

theorem batch_eq_spec {α β ε : Type} (f : α → Except ε β) (qs : List α) (i : Nat) (acc : List β) :
    batch f i qs acc = place i acc (spec f qs) := by
  induction qs generalizing i acc with
  | nil => simp [batch, spec, place]
  | cons q qs ih =>
    simp only [batch, spec]
    cases hq : f q with
    | error e => simp [place]
    | ok r =>
      simp only [ih]
      cases hs : spec f qs with
      | ok rs => simp [place]
      | error ke => obtain ⟨k, e⟩ := ke; simp [place]; omega

theorem place_zero_nil {β ε : Type} (r : Except (Nat × ε) (List β)) : place 0 [] r = r := by
  rcases r with ⟨k, e⟩ | rs
  · exact congrArg (fun k => Except.error (k, e)) (Nat.zero_add k)
  · rfl

theorem batch_zero {α β ε : Type} (f : α → Except ε β) (qs : List α) : batch f 0 qs [] = spec f qs := by
  rw [batch_eq_spec, place_zero_nil]

theorem spec_err_of_split {α β ε : Type} (f : α → Except ε β) (pre : List α) (q : α) (post : List α) (e : ε)
    (hq : f q = .error e) (hp : ∀ p ∈ pre, ∃ r, f p = .ok r) : spec f (pre ++ q :: post) = .error (pre.length, e) := by
  induction pre with
  | nil => simp [spec, hq]
  | cons p pre ih =>
    rw [List.forall_mem_cons] at hp
    obtain ⟨r, hr⟩ := hp.1
    simp [spec, hr, ih hp.2]

/-- **two-sided first-failure**: the batch fails with `(k, e)` exactly when call `k` is the first that fails and
    `e` is its error -/
theorem batch_err_iff {α β ε : Type} (f : α → Except ε β) (qs : List α) (k : Nat) (e : ε) :
    batch f 0 qs [] = .error (k, e) ↔
      ∃ pre q post, qs = pre ++ q :: post ∧ pre.length = k ∧ f q = .error e ∧ ∀ p ∈ pre, ∃ r, f p = .ok r := by
  constructor
  · intro h
    obtain ⟨pre, q, post, h1, h2, h3, h4⟩ := batch_err_first f qs 0 [] k e h
    exact ⟨pre, q, post, h1, by omega, h3, h4⟩
  · rintro ⟨pre, q, post, rfl, rfl, hq, hp⟩
    rw [batch_zero, spec_err_of_split f pre q post e hq hp]

theorem batch_ok_of_all {α β ε : Type} (f : α → Except ε β) (qs : List α) (h : ∀ q ∈ qs, ∃ r, f q = .ok r) :
    ∃ rs, batch f 0 qs [] = .ok rs ∧ qs.map f = rs.map Except.ok := by
  cases hb : batch f 0 qs [] with
  | ok rs =>
    obtain ⟨ys, h1, h2⟩ := (batch_ok_iff f qs 0 [] rs).1 hb
    exact ⟨rs, rfl, by simpa [h1] using h2⟩
  | error ke =>
    obtain ⟨k, e⟩ := ke
    obtain ⟨pre, q, post, h1, _, h3, _⟩ := batch_err_first f qs 0 [] k e hb
    obtain ⟨r, hr⟩ := h q (by simp [h1])
    rw [hr] at h3; cases h3

theorem batch_append_from {α β ε : Type} (f : α → Except ε β) (xs ys : List α) (i : Nat) (acc : List β) :
    batch f i (xs ++ ys) acc = match batch f i xs acc with
      | .ok rs => batch f (i + xs.length) ys rs
      | .error ke => .error ke := by
  induction xs generalizing i acc with
  | nil => rfl
  | cons x xs ih =>
    simp only [List.cons_append, batch]
    cases f x with
    | ok r => simp only [ih, List.length_cons, Nat.add_assoc, Nat.add_comm 1]
    | error e => rfl

theorem batch_append {α β ε : Type} (f : α → Except ε β) (xs ys : List α) :
    batch f 0 (xs ++ ys) [] = match batch f 0 xs [] with
      | .ok rs => batch f xs.length ys rs
      | .error ke => .error ke := by
  rw [batch_append_from, Nat.zero_add]

end GoSQLXModel.Batch
