import GoSQLXModel.Model.Loops
/-!
# ParseContext: cancellation is reported at the first poll that sees it, and not before

For every token stream, statement oracle, poll count per statement and every way the context may fire, the loop either
stops at the first poll that sees the context done — no further poll, no further statement, no tree — or does exactly
what `Parse` does (`parseContext_cases`, along the loop's own recursion).  A context that fires only after the call's
last poll, or never, is invisible; one that is done at the call's first poll is refused there when there is a statement
or a semicolon left to read (the model has no poll in front of the loop).
-/
namespace GoSQLXModel.Loops
variable (I : Input)

/-- poll `j` is the first poll from `k` on that sees the context done -/
def FirstFire (fires : Nat → Bool) (k j : Nat) : Prop := k ≤ j ∧ fires j = true ∧ ∀ i, k ≤ i → i < j → fires i = false

theorem FirstFire.of_quiet {fires : Nat → Bool} {k k' j : Nat} (hq : ∀ i, k ≤ i → i < k' → fires i = false)
    (hk : k ≤ k') (h : FirstFire fires k' j) : FirstFire fires k j :=
  ⟨Nat.le_trans hk h.1, h.2.1, fun i hi hj => (Nat.lt_or_ge i k').elim (hq i hi) fun hge => h.2.2 i hge hj⟩

theorem FirstFire.of_head {fires : Nat → Bool} {k j : Nat} (hk : ¬fires k = true) (h : FirstFire fires (k + 1) j) :
    FirstFire fires k j :=
  h.of_quiet (fun _ h1 h2 => Nat.le_antisymm (Nat.le_of_lt_succ h2) h1 ▸ Bool.eq_false_iff.2 hk) (Nat.le_succ k)

/-- the polls `a … a + n - 1` a statement makes: which one fires first, or that none does -/
theorem firstFire_of_find {fires : Nat → Bool} {a n j : Nat}
    (h : (List.range n).find? (fun j => fires (a + j)) = some j) : FirstFire fires a (a + j) := by
  obtain ⟨p1, _, p3⟩ := List.find?_range_eq_some.1 h
  refine ⟨Nat.le_add_right a j, p1, fun i h1 h2 => ?_⟩
  have := p3 (i - a) (by omega)
  rwa [Nat.add_sub_cancel' h1, Bool.not_eq_true'] at this

theorem quiet_of_find {fires : Nat → Bool} {a n : Nat}
    (h : (List.range n).find? (fun j => fires (a + j)) = none) (i : Nat) (h1 : a ≤ i) (h2 : i < a + n) : fires i = false := by
  have := List.find?_eq_none.1 h (i - a) (List.mem_range.2 (by omega))
  rwa [Nat.add_sub_cancel' h1, Bool.not_eq_true] at this

/-- ParseContext either stops at the first poll that sees the context done, or does exactly what Parse does. -/
theorem parseContext_cases (strict : Bool) (fires : Nat → Bool) (polls : Nat → Nat) (f k pos : Nat) (acc : List Nat) :
    (∃ j, parseContextLoop I strict fires polls f k pos acc = some (.cancelled j) ∧ FirstFire fires k j) ∨
    parseContextLoop I strict fires polls f k pos acc = (parseLoop I strict f pos acc).map .done := by
  fun_induction parseContextLoop I strict fires polls f k pos acc with
  | case1 => exact .inr rfl
  | case2 _ k _ _ _ hk => exact .inl ⟨k, rfl, Nat.le_refl k, hk, fun i h1 h2 => absurd h2 (Nat.not_lt.2 h1)⟩
  | case3 _ _ _ _ hm _ hs hst => exact .inr (by simp [parseLoop, hm, hs, hst])
  | case4 _ k _ _ hm hk hs hst ih =>
    refine ih.imp (fun ⟨j, h, hj⟩ => ⟨j, h, hj.of_head hk⟩) fun h => h.trans ?_
    simp [parseLoop, hm, hs, hst]
  | case5 _ k pos _ hm hk hs j hfind => exact .inl ⟨_, rfl, (firstFire_of_find hfind).of_head hk⟩
  | case6 _ k pos _ hm hk hs hfind o hok pos' ih =>
    refine ih.imp (fun ⟨j, h, hj⟩ => ⟨j, h, (hj.of_quiet (quiet_of_find hfind) (Nat.le_add_right ..)).of_head hk⟩)
      fun h => h.trans ?_
    simp [parseLoop, hm, hs, hok, o, pos']
  | case7 _ _ _ _ hm _ hs _ o hok =>
    exact .inr (by simp [parseLoop, hm, hs, hok, o])
  | case8 _ _ _ _ hm he | case9 _ _ _ _ hm he =>
    exact .inr (by simp [parseLoop, hm, he])

/-- a context that never fires: ParseContext returns exactly what Parse returns -/
theorem parseContext_never_eq_parse (strict : Bool) (polls : Nat → Nat) (f k pos : Nat) (acc : List Nat) :
    parseContextLoop I strict (fun _ => false) polls f k pos acc = (parseLoop I strict f pos acc).map CRes.done :=
  (parseContext_cases I strict _ polls f k pos acc).resolve_left fun ⟨_, _, h⟩ => Bool.false_ne_true h.2.1

theorem cancelled_at_first_firing_poll (strict : Bool) (fires : Nat → Bool) (polls : Nat → Nat) :
    ∀ (f k pos : Nat) (acc : List Nat) (j : Nat),
      parseContextLoop I strict fires polls f k pos acc = some (.cancelled j) →
      k ≤ j ∧ fires j = true ∧ ∀ i, k ≤ i → i < j → fires i = false := by
  intro f k pos acc j h
  rcases parseContext_cases I strict fires polls f k pos acc with ⟨j', h', hj⟩ | h'
  · cases h.symm.trans h'; exact hj
  · simp [h, eq_comm] at h'

theorem done_means_parse (strict : Bool) (fires : Nat → Bool) (polls : Nat → Nat) :
    ∀ (f k pos : Nat) (acc : List Nat) (r : Res),
      parseContextLoop I strict fires polls f k pos acc = some (.done r) → parseLoop I strict f pos acc = some r := by
  intro f k pos acc r h
  rcases parseContext_cases I strict fires polls f k pos acc with ⟨j', h', _⟩ | h'
  · cases h.symm.trans h'
  · simpa [h, eq_comm] using h'

/-- a context already done at poll `k`, with a statement or a semicolon left to read: refused at that poll -/
theorem monotone_context (strict : Bool) (fires : Nat → Bool) (polls : Nat → Nat) (f k pos : Nat) (acc : List Nat)
    (hm : more I pos = true) (hk : fires k = true) :
    parseContextLoop I strict fires polls (f + 1) k pos acc = some (.cancelled k) := by
  simp [parseContextLoop, hm, hk]

end GoSQLXModel.Loops
