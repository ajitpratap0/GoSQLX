import GoSQLXModel.Model.Depth
/-! With `defer` at every counting call, the counter is what it was — after success and after failure, at any depth of
    nesting, wherever the failure happens. -/
namespace GoSQLXModel.Depth

mutual
theorem runCall_restores : ∀ (c : Call) (d : Nat), c.allDeferred = true → (runCall c d).1 = d
  | .node counts exit failsItself kids, d, h => by
    simp only [Call.allDeferred, Bool.and_eq_true, Bool.or_eq_true, Bool.not_eq_true', beq_iff_eq] at h
    have hk := runCalls_restores kids (if counts then d + 1 else d) h.2
    cases counts with
    | false => simpa [runCall] using hk
    | true =>
      obtain rfl : exit = .deferred := h.1.resolve_left nofun
      simp only [runCall, if_true] at hk ⊢
      omega
theorem runCalls_restores : ∀ (cs : Calls) (d : Nat), cs.allDeferred = true → (runCalls cs d).1 = d
  | .nil, d, _ => rfl
  | .cons c cs, d, h => by
    simp only [Calls.allDeferred, Bool.and_eq_true] at h
    have h1 := runCall_restores c d h.1
    have h2 := runCalls_restores cs d h.2
    -- the first call leaves the counter at `d`: if it failed the run stops there, else the rest runs from `d`
    simp only [runCalls]
    split <;> simp_all
end

/-- any number of parses, failing or not, on one parser: the counter stays at its start value -/
theorem runs_restore (cs : List Call) (d : Nat) (h : ∀ c ∈ cs, c.allDeferred = true) :
    cs.foldl (fun d c => (runCall c d).1) d = d := by
  induction cs with
  | nil => rfl
  | cons c cs ih =>
    rw [List.forall_mem_cons] at h
    rw [List.foldl_cons, runCall_restores c d h.1, ih h.2]

/-- the shape a refactoring away from `defer` produces: an inline decrement that the failure path skips. A failing
    call under two counting inline calls leaks three levels (its own and theirs); 34 such statements exceed 100. -/
def leaky : Call := .node true .inline false (.cons (.node true .inline false (.cons (.node true .inline true .nil) .nil)) .nil)
theorem inline_decrement_leaks : (runCall leaky 0) = (3, false) := by decide
theorem leaks_accumulate : (List.replicate 34 leaky).foldl (fun d c => (runCall c d).1) 0 = 102 := by decide +kernel
/-- the same tree with `defer` -/
def sound : Call := .node true .deferred false (.cons (.node true .deferred false (.cons (.node true .deferred true .nil) .nil)) .nil)
example : sound.allDeferred = true ∧ runCall sound 5 = (5, false) := by decide

end GoSQLXModel.Depth
