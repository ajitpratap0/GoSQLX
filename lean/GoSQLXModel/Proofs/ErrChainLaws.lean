import GoSQLXModel.Model.ErrChain
/-!
# errors.Is / errors.As as walks over the unwrap chain

`chain e` is the list an error exposes "through standard unwrapping" (`Unwrap()` repeated).  `errors.Is` finds exactly
its members, `errors.As` the code of its first structured error; over any stack of layers that is the code of the
outermost `WrapError` layer when there is one and otherwise whatever the wrapped error exposes — `%w` / ParseError
layers never change the code a caller sees.
-/
namespace GoSQLXModel.ErrChain

def chain : Err → List Err
  | .ctx d => [.ctx d]
  | .bare m => [.bare m]
  | .structured c => [.structured c]
  | .caused c i => .caused c i :: chain i
  | .wrapW m i => .wrapW m i :: chain i
  | .parseError k i => .parseError k i :: chain i

theorem chain_unwrap (e : Err) : chain e = e :: (match unwrap e with | some i => chain i | none => []) := by
  cases e <;> rfl

theorem chain_head (e : Err) : ∃ t, chain e = e :: t := ⟨_, chain_unwrap e⟩

theorem chain_length (e : Err) : (chain e).length = depth e + 1 := by
  induction e with
  | ctx | bare | structured => rfl
  | caused _ _ ih | wrapW _ _ ih | parseError _ _ ih => exact congrArg (· + 1) ih

theorem errIs_iff_mem_chain (e t : Err) : errIs e t = true ↔ t ∈ chain e := by
  induction e with
  | ctx | bare | structured => simp only [errIs, chain, List.mem_singleton, Bool.or_false, beq_iff_eq]; exact eq_comm
  | caused _ _ ih | wrapW _ _ ih | parseError _ _ ih =>
    unfold errIs; simp only [chain, List.mem_cons, Bool.or_eq_true, beq_iff_eq, ih]; exact or_congr eq_comm .rfl

theorem chain_suffix {e m : Err} (h : m ∈ chain e) : chain m <:+ chain e := by
  induction e with
  | ctx | bare | structured => cases List.mem_singleton.1 h; exact List.suffix_refl _
  | caused _ _ ih | wrapW _ _ ih | parseError _ _ ih =>
    rcases List.mem_cons.1 h with rfl | h
    · exact List.suffix_refl _
    · exact (ih h).trans (List.suffix_cons _ _)

theorem errIs_trans (e m t : Err) (h1 : errIs e m = true) (h2 : errIs m t = true) : errIs e t = true :=
  (errIs_iff_mem_chain e t).2 ((chain_suffix ((errIs_iff_mem_chain e m).1 h1)).subset ((errIs_iff_mem_chain m t).1 h2))

def codeOf : Err → Option String
  | .structured c => some c
  | .caused c _ => some c
  | _ => none

/-- errors.As returns the code of the first structured error met while unwrapping -/
theorem errAs_eq_first_code (e : Err) : errAs e = (chain e).findSome? codeOf := by
  induction e with
  | ctx | bare | structured | caused => rfl
  | wrapW _ _ ih | parseError _ _ ih => exact ih

def layerCode : Layer → Option String
  | .cause c => some c
  | _ => none

/-- the code a caller sees through any stack of layers -/
theorem errAs_layers (ls : List Layer) (e : Err) :
    errAs (applyLayers ls e) = (ls.findSome? layerCode).or (errAs e) := by
  induction ls with
  | nil => rfl
  | cons l ls ih =>
    cases l with
    | cause => rfl
    | _ => exact ih

/-- `%w` / ParseError layers over a structured error expose it to errors.As -/
theorem as_reaches (ls : List Layer) (code : String)
    (hw : ∀ l ∈ ls, match l with | .cause _ => False | _ => True) :
    errAs (applyLayers ls (.structured code)) = some code := by
  rw [errAs_layers, List.findSome?_eq_none_iff.2 fun l hl => ?_]; rfl
  cases l with
  | cause c => exact (hw _ hl).elim
  | _ => rfl

/-- every layered chain over a structured error exposes *some* structured error -/
theorem as_some (ls : List Layer) (code : String) :
    (errAs (applyLayers ls (.structured code))).isSome = true := by
  rw [errAs_layers]; cases ls.findSome? layerCode <;> rfl

end GoSQLXModel.ErrChain
