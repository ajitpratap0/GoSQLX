import GoSQLXModel.Proofs.ExprTotal
/-!
# The answer of the expression ladder does not depend on the fuel

Once a level of the ladder answers (a tree, an error, `unsupported`) with some fuel, it gives the same answer with any
larger fuel (`mono`).  With `Proofs/ExprTotal.lean` (it always answers from fuel `10·n + 8` on) the model parser is a
function of the tokens alone: `parseExprAt` below, and `pExpr f d ts = parseExprAt d ts` for every sufficient `f`.
-/
namespace GoSQLXModel.ExprParse

theorem bindR_mono {r r' : Res} {k k' : Ex → List PTok → Res} (h1 : r ≠ .oof → r' = r)
    (hk : ∀ l rest, k l rest ≠ .oof → k' l rest = k l rest) (h : bindR r k ≠ .oof) : bindR r' k' = bindR r k := by
  cases r with
  | ok l rest =>
    rw [h1 nofun]
    exact hk l rest h
  | oof => exact absurd rfl h
  | _ =>
    rw [h1 nofun]
    rfl

/-- one more unit of fuel changes no answer -/
structure Mono (f : Nat) : Prop where
  expr : ∀ d ts, pExpr f d ts ≠ .oof → pExpr (f + 1) d ts = pExpr f d ts
  or_ : ∀ d ts, pOr f d ts ≠ .oof → pOr (f + 1) d ts = pOr f d ts
  lor : ∀ d l ts, lOr f d l ts ≠ .oof → lOr (f + 1) d l ts = lOr f d l ts
  and_ : ∀ d ts, pAnd f d ts ≠ .oof → pAnd (f + 1) d ts = pAnd f d ts
  land : ∀ d l ts, lAnd f d l ts ≠ .oof → lAnd (f + 1) d l ts = lAnd f d l ts
  cmp : ∀ d ts, pCmp f d ts ≠ .oof → pCmp (f + 1) d ts = pCmp f d ts
  tail : ∀ d l ts, pTail f d l ts ≠ .oof → pTail (f + 1) d l ts = pTail f d l ts
  pred : ∀ d neg l ts, pPred f d neg l ts ≠ .oof → pPred (f + 1) d neg l ts = pPred f d neg l ts
  between : ∀ d neg l ts, pBetween f d neg l ts ≠ .oof → pBetween (f + 1) d neg l ts = pBetween f d neg l ts
  like : ∀ d neg op l ts, pLike f d neg op l ts ≠ .oof → pLike (f + 1) d neg op l ts = pLike f d neg op l ts
  in_ : ∀ d neg l ts, pIn f d neg l ts ≠ .oof → pIn (f + 1) d neg l ts = pIn f d neg l ts
  inList : ∀ d ts, pInList f d ts ≠ .oof → pInList (f + 1) d ts = pInList f d ts
  cat : ∀ d ts, pCat f d ts ≠ .oof → pCat (f + 1) d ts = pCat f d ts
  lcat : ∀ d l ts, lCat f d l ts ≠ .oof → lCat (f + 1) d l ts = lCat f d l ts
  add : ∀ d ts, pAdd f d ts ≠ .oof → pAdd (f + 1) d ts = pAdd f d ts
  ladd : ∀ d l ts, lAdd f d l ts ≠ .oof → lAdd (f + 1) d l ts = lAdd f d l ts
  mul : ∀ d ts, pMul f d ts ≠ .oof → pMul (f + 1) d ts = pMul f d ts
  lmul : ∀ d l ts, lMul f d l ts ≠ .oof → lMul (f + 1) d l ts = lMul f d l ts
  mulStep : ∀ d l op ts, mulStep f d l op ts ≠ .oof → mulStep (f + 1) d l op ts = mulStep f d l op ts
  args : ∀ d ts, pArgs f d ts ≠ .oof → pArgs (f + 1) d ts = pArgs f d ts
  prim : ∀ d ts, pPrim f d ts ≠ .oof → pPrim (f + 1) d ts = pPrim f d ts

theorem mono_zero : Mono 0 := by
  constructor <;> intros <;> rename_i h <;> exact absurd (by simp only [pExpr.eq_1, pOr.eq_1, lOr.eq_1, pAnd.eq_1, lAnd.eq_1, pCmp.eq_1,
    pTail.eq_1, pPred.eq_1, pBetween.eq_1, pLike.eq_1, pIn.eq_1, pInList.eq_1, pCat.eq_1, lCat.eq_1, pAdd.eq_1, lAdd.eq_1, pMul.eq_1,
    lMul.eq_1, mulStep.eq_1, pArgs.eq_1, pPrim.eq_1]) h

/- In each field the goal is `X (f+1) … ≠ .oof → X (f+2) … = X (f+1) …` with both sides unfolded.  `split` on the tokens
   treats all three copies of the body at once.  A callee that the answer at `f+1` went through did not answer `oof`
   (every `match` on a callee's answer hands `oof` on), so by `ih` it answers the same at `f+1`, and after rewriting with
   that the two sides scrutinise the same term. -/
theorem mono_succ (f : Nat) (ih : Mono f) : Mono (f + 1) where
  expr := fun d ts => by
    rw [pExpr, pExpr]
    split
    · exact fun _ => rfl
    · exact ih.or_ _ ts
  or_ := fun d ts => by
    rw [pOr, pOr]
    exact bindR_mono (ih.and_ d ts) (ih.lor d)
  lor := fun d l ts => by
    unfold lOr
    split
    · exact bindR_mono (ih.and_ d _) fun _ _ => ih.lor d _ _
    · exact fun _ => rfl
  and_ := fun d ts => by
    rw [pAnd, pAnd]
    exact bindR_mono (ih.cmp d ts) (ih.land d)
  land := fun d l ts => by
    unfold lAnd
    split
    · exact bindR_mono (ih.cmp d _) fun _ _ => ih.land d _ _
    · exact fun _ => rfl
  cmp := fun d ts => by
    rw [pCmp, pCmp]
    exact bindR_mono (ih.cat d ts) (ih.tail d)
  tail := fun d l ts => by
    rw [pTail, pTail]
    exact ih.pred d _ l _
  pred := fun d neg l ts => by
    cases ts with
    | nil =>
      rw [pPred, pPred]
      exact fun _ => rfl
    | cons t r1 =>
      exact pPred_cons (motive := fun F => F f ≠ .oof → F (f + 1) = F f) d neg l t r1 (ih.between d neg l r1)
        (fun op => ih.like d neg op l r1) (ih.in_ d neg l r1) (bindR_mono (ih.cat d r1) fun _ _ _ => rfl) fun _ _ _ _ => rfl
  between := fun d neg l ts => by
    rw [pBetween, pBetween]
    intro h
    rw [ih.cat d ts fun e => h (by rw [e])]
    revert h
    split
    · intro h
      rw [ih.cat d _ fun e => h (by rw [e])]
    all_goals exact fun _ => rfl
  like := fun d neg op l ts => by
    rw [pLike, pLike]
    intro h
    rw [ih.prim d ts fun e => h (by rw [e])]
  in_ := fun d neg l ts => by
    unfold pIn
    split
    · exact fun _ => rfl
    · intro h
      rw [ih.inList d _ fun e => h (by rw [e])]
    · exact fun _ => rfl
  inList := fun d ts => by
    rw [pInList, pInList]
    intro h
    rw [ih.expr d ts fun e => h (by rw [e]; rfl)]
    revert h
    split
    · intro h
      rw [ih.inList d _ fun e => h (by rw [e])]
    all_goals exact fun _ => rfl
  cat := fun d ts => by
    rw [pCat, pCat]
    exact bindR_mono (ih.add d ts) (ih.lcat d)
  lcat := fun d l ts => by
    unfold lCat
    split
    · exact bindR_mono (ih.add d _) fun _ _ => ih.lcat d _ _
    · exact fun _ => rfl
  add := fun d ts => by
    rw [pAdd, pAdd]
    exact bindR_mono (ih.mul d ts) (ih.ladd d)
  ladd := fun d l ts => by
    unfold lAdd
    split
    · exact bindR_mono (ih.mul d _) fun _ _ => ih.ladd d _ _
    · exact bindR_mono (ih.mul d _) fun _ _ => ih.ladd d _ _
    · exact fun _ => rfl
  mul := fun d ts => by
    rw [pMul, pMul]
    exact bindR_mono (ih.prim d ts) (ih.lmul d)
  lmul := fun d l ts => by
    unfold lMul
    split
    · exact ih.mulStep d l _ _
    · exact ih.mulStep d l _ _
    · exact ih.mulStep d l _ _
    · exact fun _ => rfl
  mulStep := fun d l op ts => by
    unfold mulStep
    split
    · exact fun _ => rfl
    · exact bindR_mono (ih.prim d ts) fun _ _ => ih.lmul d _ _
  args := fun d ts => by
    by_cases ho : ∃ lit tl, ts = ⟨.other, lit⟩ :: tl
    · obtain ⟨lit, tl, rfl⟩ := ho
      rw [pArgs_other, pArgs_other]
      exact fun _ => rfl
    have hne : ∀ lit tl, ts = ⟨.other, lit⟩ :: tl → False := fun lit tl e => ho ⟨lit, tl, e⟩
    rw [pArgs.eq_3 _ _ _ hne, pArgs.eq_3 _ _ _ hne]
    intro h
    rw [ih.expr d ts fun e => h (by rw [e]; rfl)]
    revert h
    split
    · intro h
      rw [ih.args d _ fun e => h (by rw [e])]
    all_goals exact fun _ => rfl
  prim := fun d ts => by
    unfold pPrim
    split
    · split
      · exact fun _ => rfl
      · intro h
        rw [ih.args d _ fun e => h (by rw [e])]
      · exact fun _ => rfl
    · exact fun _ => rfl
    · exact fun _ => rfl
    · exact fun _ => rfl
    · exact fun _ => rfl
    · exact fun _ => rfl
    · split
      · exact fun _ => rfl
      · intro h
        rw [ih.expr d _ fun e => h (by rw [e])]
    · split
      · exact fun _ => rfl
      · split
        · exact fun _ => rfl
        · exact bindR_mono (ih.cmp _ _) fun _ _ _ => rfl
    · exact fun _ => rfl
    · exact fun _ => rfl

theorem mono : ∀ f, Mono f
  | 0 => mono_zero
  | f + 1 => mono_succ f (mono f)

theorem stable_le {F : Nat → Res} (hm : ∀ f, F f ≠ .oof → F (f + 1) = F f) {f g : Nat} (hfg : f ≤ g) (h : F f ≠ .oof) :
    F g = F f := by
  induction hfg with
  | refl => rfl
  | step _ ih => exact (hm _ (ih ▸ h)).trans ih

/-- the model parser as a function of the tokens alone (the fuel that always suffices) -/
def parseExprAt (d : Nat) (ts : List PTok) : Res := pExpr (10 * ts.length + 8) d ts

theorem parseExprAt_ne_oof (d : Nat) (ts : List PTok) : parseExprAt d ts ≠ .oof :=
  pExpr_returns d ts _ (Nat.le_refl _)

/-- **fuel independence**: with any sufficient fuel the answer is the same -/
theorem pExpr_stable (d : Nat) (ts : List PTok) (f : Nat) (hf : 10 * ts.length + 8 ≤ f) : pExpr f d ts = parseExprAt d ts :=
  stable_le (fun f => (mono f).expr d ts) hf (parseExprAt_ne_oof d ts)

end GoSQLXModel.ExprParse
