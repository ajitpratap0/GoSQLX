import GoSQLXModel.Model.ExprParse
/-!
# The expression ladder makes progress on every token list

For **every** token list (not only rendered trees) and every fuel and depth: when a level of the ladder succeeds, the
tokens it hands back are a strictly shorter list than the one it was given (the `p…` functions consume at least one
token), and the loop bodies (`l…`, the predicate tail) never hand back more than they were given.  So each iteration of
the `for p.isType(…)` loops of the real parser consumes at least two tokens, and the statement loops built on
`parseExpression` cannot spin on an expression (C01: the parser returns).

This file also holds what the three inductions over the fuel (`Prog` here, `Fuelled` in `ExprTotal`, `Mono` in
`ExprMono`) share: `bindR`, the shape of every "operand, then continue" step of the ladder, and `pPred_cons`, the
dispatch of the predicate tail on its first token.
-/
namespace GoSQLXModel.ExprParse

def Res.lt (r : Res) (n : Nat) : Prop :=
  match r with
  | .ok _ rest => rest.length < n
  | _ => True
def Res.le (r : Res) (n : Nat) : Prop :=
  match r with
  | .ok _ rest => rest.length ≤ n
  | _ => True
def ResL.lt (r : ResL) (n : Nat) : Prop :=
  match r with
  | .ok _ rest => rest.length < n
  | _ => True

theorem Res.lt.ok {r : Res} {n : Nat} (h : r.lt n) {e : Ex} {rest : List PTok} (hr : r = .ok e rest) : rest.length < n := by
  subst hr; exact h
theorem ResL.lt.ok {r : ResL} {n : Nat} (h : r.lt n) {es : ExL} {rest : List PTok} (hr : r = .ok es rest) : rest.length < n := by
  subst hr; exact h

theorem Res.le.trans_lt {r : Res} {a b : Nat} (h : r.le a) (hab : a < b) : r.lt b := by
  cases r with
  | ok => exact Nat.lt_of_le_of_lt h hab
  | _ => trivial
theorem Res.le.trans {r : Res} {a b : Nat} (h : r.le a) (hab : a ≤ b) : r.le b := by
  cases r with
  | ok => exact Nat.le_trans h hab
  | _ => trivial
theorem Res.lt_trans_le {r : Res} {a b : Nat} (h : r.lt a) (hab : a ≤ b) : r.lt b := by
  cases r with
  | ok => exact Nat.lt_of_lt_of_le h hab
  | _ => trivial
theorem Res.lt.le {r : Res} {a : Nat} (h : r.lt a) : r.le a := by
  cases r with
  | ok => exact Nat.le_of_lt h
  | _ => trivial
theorem ResL.lt_trans_le {r : ResL} {a b : Nat} (h : r.lt a) (hab : a ≤ b) : r.lt b := by
  cases r with
  | ok => exact Nat.lt_of_lt_of_le h hab
  | _ => trivial

theorem afterPrimary_le (e : Ex) (rest : List PTok) : (afterPrimary e rest).le rest.length := by
  unfold afterPrimary
  split
  · trivial
  · exact Nat.le_refl _

theorem afterCall_le (n : String) (args : ExL) (rest : List PTok) : (afterCall n args rest).le rest.length := by
  unfold afterCall
  split
  · split
    · trivial
    · exact afterPrimary_le _ _
  · exact Nat.le_refl _

theorem pIs_lt (l : Ex) (ts : List PTok) : (pIs l ts).lt ts.length := by
  unfold pIs
  split
  · exact Nat.lt_succ_of_lt (Nat.lt_succ_self _)
  · trivial
  · exact Nat.lt_succ_self _
  · trivial

theorem pIs_ne_oof (l : Ex) (ts : List PTok) : pIs l ts ≠ .oof := by
  unfold pIs
  split <;> nofun

/-- `Res.toL` only meets answers that are not `ok` (its two call sites, in `pInList` and `pArgs`, have matched `ok`
    before); its `ok` case is a dummy, so it never answers `ok` and the bound holds of every `r` -/
theorem toL_lt (r : Res) (n : Nat) : r.toL.lt n := by
  cases r <;> trivial

theorem pArgs_other (g d : Nat) (lit : String) (tl : List PTok) : pArgs (g + 1) d (⟨.other, lit⟩ :: tl) = .unsupported :=
  pArgs.eq_2 ..

/-- "parse the first operand, then continue": every level of the ladder and every turn of its loops has this shape.
    The model writes the `match` out instead of calling `bindR`; it unfolds to the same term, which is why
    `rw [pOr]; exact bindR_lt …` closes a goal in which no `bindR` is to be seen. -/
def bindR (r : Res) (k : Ex → List PTok → Res) : Res :=
  match r with
  | .ok l rest => k l rest
  | r => r

theorem bindR_lt {r : Res} {n : Nat} {k : Ex → List PTok → Res} (h : r.lt n) (hk : ∀ l rest, (k l rest).le rest.length) :
    (bindR r k).lt n := by
  cases r with
  | ok l rest => exact (hk l rest).trans_lt h
  | _ => trivial

/-- The predicate tail chooses what to do from its first token alone, whatever the fuel: what holds of each thing it
    may go on to do, as a function of the fuel left, holds of `pPred` on `t :: r1`.  (`split` on this chain of `if`s is
    very slow to check, and so is `simp` under the binder; here the chain is walked once, by `rw`, for the three
    inductions over the fuel.) -/
theorem pPred_cons {motive : (Nat → Res) → Prop} (d : Nat) (neg : Bool) (l : Ex) (t : PTok) (r1 : List PTok)
    (between : motive fun g => pBetween g d neg l r1)
    (like : ∀ op, motive fun g => pLike g d neg op l r1)
    (in_ : motive fun g => pIn g d neg l r1)
    (cmp : motive fun g => bindR (pCat g d r1) fun r rest => .ok (.bin t.lit l r) rest)
    (const : ∀ r, r ≠ .oof → r.le (r1.length + 1) → motive fun _ => r) :
    motive fun g => pPred (g + 1) d neg l (t :: r1) := by
  have via {F : Nat → Res} (h : motive F) (e : ∀ g, pPred (g + 1) d neg l (t :: r1) = F g) :
      motive fun g => pPred (g + 1) d neg l (t :: r1) := (funext e : _ = F) ▸ h
  by_cases c1 : (t.k == TK.between) = true
  · exact via between fun g => by rw [pPred, if_pos c1]
  by_cases c2 : isLikeOp t = true
  · exact via (like _) fun g => by rw [pPred, if_neg c1, if_pos c2]
  by_cases c3 : isRegexpOp t = true
  · exact via (like _) fun g => by rw [pPred, if_neg c1, if_neg c2, if_pos c3]
  by_cases c4 : (t.k == TK.in_) = true
  · exact via in_ fun g => by rw [pPred, if_neg c1, if_neg c2, if_neg c3, if_pos c4]
  by_cases c5 : neg = true
  · exact via (const (.err "E2002") nofun trivial) fun g => by rw [pPred, if_neg c1, if_neg c2, if_neg c3, if_neg c4, if_pos c5]
  by_cases c6 : (t.k == TK.is) = true
  · exact via (const _ (pIs_ne_oof l r1) ((pIs_lt l r1).le.trans (Nat.le_succ _))) fun g => by
      rw [pPred, if_neg c1, if_neg c2, if_neg c3, if_neg c4, if_neg c5, if_pos c6]
  by_cases c7 : (t.k == TK.cmp) = true
  · exact via cmp fun g => by
      rw [pPred, if_neg c1, if_neg c2, if_neg c3, if_neg c4, if_neg c5, if_neg c6, if_pos c7]
      rfl
  by_cases c8 : continuesUnmodelled t.k = true
  · exact via (const .unsupported nofun trivial) fun g => by
      rw [pPred, if_neg c1, if_neg c2, if_neg c3, if_neg c4, if_neg c5, if_neg c6, if_neg c7, if_pos c8]
  · exact via (const (.ok l (t :: r1)) nofun (Nat.le_refl _)) fun g => by
      rw [pPred, if_neg c1, if_neg c2, if_neg c3, if_neg c4, if_neg c5, if_neg c6, if_neg c7, if_neg c8]

structure Prog (f : Nat) : Prop where
  expr : ∀ d ts, (pExpr f d ts).lt ts.length
  or_ : ∀ d ts, (pOr f d ts).lt ts.length
  lor : ∀ d l ts, (lOr f d l ts).le ts.length
  and_ : ∀ d ts, (pAnd f d ts).lt ts.length
  land : ∀ d l ts, (lAnd f d l ts).le ts.length
  cmp : ∀ d ts, (pCmp f d ts).lt ts.length
  tail : ∀ d l ts, (pTail f d l ts).le ts.length
  pred : ∀ d neg l ts, (pPred f d neg l ts).le ts.length
  between : ∀ d neg l ts, (pBetween f d neg l ts).le ts.length
  like : ∀ d neg op l ts, (pLike f d neg op l ts).le ts.length
  in_ : ∀ d neg l ts, (pIn f d neg l ts).le ts.length
  inList : ∀ d ts, (pInList f d ts).lt ts.length
  cat : ∀ d ts, (pCat f d ts).lt ts.length
  lcat : ∀ d l ts, (lCat f d l ts).le ts.length
  add : ∀ d ts, (pAdd f d ts).lt ts.length
  ladd : ∀ d l ts, (lAdd f d l ts).le ts.length
  mul : ∀ d ts, (pMul f d ts).lt ts.length
  lmul : ∀ d l ts, (lMul f d l ts).le ts.length
  mulStep : ∀ d l op ts, (mulStep f d l op ts).le ts.length
  args : ∀ d ts, (pArgs f d ts).lt ts.length
  prim : ∀ d ts, (pPrim f d ts).lt ts.length

theorem prog_zero : Prog 0 := by
  constructor <;> intros <;> simp only [pExpr.eq_1, pOr.eq_1, lOr.eq_1, pAnd.eq_1, lAnd.eq_1, pCmp.eq_1, pTail.eq_1, pPred.eq_1,
    pBetween.eq_1, pLike.eq_1, pIn.eq_1, pInList.eq_1, pCat.eq_1, lCat.eq_1, pAdd.eq_1, lAdd.eq_1, pMul.eq_1, lMul.eq_1, mulStep.eq_1,
    pArgs.eq_1, pPrim.eq_1] <;> trivial

/-- one turn of a loop `l…`: the operator, an operand, the loop again -/
theorem turn_le {r : Res} {ts : List PTok} {k : Ex → List PTok → Res} (t : PTok) (h : r.lt ts.length)
    (hk : ∀ l rest, (k l rest).le rest.length) : (bindR r k).le (t :: ts).length :=
  (bindR_lt h hk).le.trans (Nat.le_succ _)

theorem prog_succ (f : Nat) (ih : Prog f) : Prog (f + 1) where
  expr := fun d ts => by
    rw [pExpr]
    split
    · trivial
    · exact ih.or_ _ ts
  or_ := fun d ts => by
    rw [pOr]
    exact bindR_lt (ih.and_ d ts) (ih.lor d)
  lor := fun d l ts => by
    unfold lOr
    split
    · exact turn_le _ (ih.and_ d _) fun _ _ => ih.lor d _ _
    · exact Nat.le_refl _
  and_ := fun d ts => by
    rw [pAnd]
    exact bindR_lt (ih.cmp d ts) (ih.land d)
  land := fun d l ts => by
    unfold lAnd
    split
    · exact turn_le _ (ih.cmp d _) fun _ _ => ih.land d _ _
    · exact Nat.le_refl _
  cmp := fun d ts => by
    rw [pCmp]
    exact bindR_lt (ih.cat d ts) (ih.tail d)
  tail := fun d l ts => by
    rw [pTail]
    split
    · exact (ih.pred d _ l ts.tail).trans (List.length_tail ▸ Nat.sub_le _ 1)
    · exact ih.pred d _ l ts
  pred := fun d neg l ts => by
    cases ts with
    | nil =>
      rw [pPred]
      exact Nat.le_refl _
    | cons t r1 =>
      exact pPred_cons (motive := fun F => (F f).le (r1.length + 1)) d neg l t r1
        ((ih.between d neg l r1).trans (Nat.le_succ _)) (fun op => (ih.like d neg op l r1).trans (Nat.le_succ _))
        ((ih.in_ d neg l r1).trans (Nat.le_succ _)) (turn_le t (ih.cat d r1) fun _ _ => Nat.le_refl _) fun _ _ h => h
  between := fun d neg l ts => by
    rw [pBetween]
    split
    next r2 h1 =>
      have h1 := (ih.cat d ts).ok h1
      split
      next h2 => exact Nat.le_of_lt (Nat.lt_trans ((ih.cat d r2).ok h2) (Nat.lt_of_succ_lt h1))
      · trivial
      · exact (ih.cat d r2).le.trans (Nat.le_of_lt (Nat.lt_of_succ_lt h1))
    · trivial
    · trivial
    · exact (ih.cat d ts).le
  like := fun d neg op l ts => by
    rw [pLike]
    split
    next h => exact Nat.le_of_lt ((ih.prim d ts).ok h)
    · trivial
    · exact (ih.prim d ts).le
  in_ := fun d neg l ts => by
    unfold pIn
    split
    · trivial
    · split
      next h => exact Nat.le_succ_of_le (Nat.le_of_lt ((ih.inList d _).ok h))
      all_goals trivial
    · trivial
  inList := fun d ts => by
    rw [pInList]
    split
    next r h1 =>
      have h1 := Nat.lt_of_succ_lt ((ih.expr d ts).ok h1)
      split
      next h2 => exact Nat.lt_trans ((ih.inList d r).ok h2) h1
      · exact ResL.lt_trans_le (ih.inList d r) (Nat.le_of_lt h1)
    next h1 => exact Nat.lt_of_succ_lt ((ih.expr d ts).ok h1)
    · trivial
    · trivial
    · exact toL_lt _ _
  cat := fun d ts => by
    rw [pCat]
    exact bindR_lt (ih.add d ts) (ih.lcat d)
  lcat := fun d l ts => by
    unfold lCat
    split
    · exact turn_le _ (ih.add d _) fun _ _ => ih.lcat d _ _
    · exact Nat.le_refl _
  add := fun d ts => by
    rw [pAdd]
    exact bindR_lt (ih.mul d ts) (ih.ladd d)
  ladd := fun d l ts => by
    unfold lAdd
    split
    · exact turn_le _ (ih.mul d _) fun _ _ => ih.ladd d _ _
    · exact turn_le _ (ih.mul d _) fun _ _ => ih.ladd d _ _
    · exact Nat.le_refl _
  mul := fun d ts => by
    rw [pMul]
    exact bindR_lt (ih.prim d ts) (ih.lmul d)
  lmul := fun d l ts => by
    unfold lMul
    split
    · exact (ih.mulStep d l _ _).trans (Nat.le_succ _)
    · exact (ih.mulStep d l _ _).trans (Nat.le_succ _)
    · exact (ih.mulStep d l _ _).trans (Nat.le_succ _)
    · exact Nat.le_refl _
  mulStep := fun d l op ts => by
    unfold mulStep
    split
    · trivial
    · exact (bindR_lt (ih.prim d ts) fun _ _ => ih.lmul d _ _).le
  args := fun d ts => by
    -- `pArgs.eq_3`: what `pArgs` does with fuel left when `pArgs_other` does not apply
    by_cases ho : ∃ lit tl, ts = ⟨.other, lit⟩ :: tl
    · obtain ⟨lit, tl, rfl⟩ := ho
      rw [pArgs_other]
      trivial
    rw [pArgs.eq_3 _ _ _ fun lit tl e => ho ⟨lit, tl, e⟩]
    split
    next r h1 =>
      have h1 := Nat.lt_of_succ_lt ((ih.expr d ts).ok h1)
      split
      next h2 => exact Nat.lt_trans ((ih.args d r).ok h2) h1
      · exact ResL.lt_trans_le (ih.args d r) (Nat.le_of_lt h1)
    next h1 => exact Nat.lt_of_succ_lt ((ih.expr d ts).ok h1)
    · split <;> trivial
    · trivial
    · exact toL_lt _ _
  prim := fun d ts => by
    unfold pPrim
    split
    · split
      · exact (afterCall_le _ _ _).trans_lt (Nat.lt_succ_of_lt (Nat.lt_succ_of_lt (Nat.lt_succ_self _)))
      · split
        next h => exact (afterCall_le _ _ _).trans_lt (Nat.lt_succ_of_lt (Nat.lt_succ_of_lt ((ih.args d _).ok h)))
        all_goals trivial
      · exact (afterPrimary_le _ _).trans_lt (Nat.lt_succ_self _)
    · exact (afterPrimary_le _ _).trans_lt (Nat.lt_succ_self _)
    · exact (afterPrimary_le _ _).trans_lt (Nat.lt_succ_self _)
    · exact (afterPrimary_le _ _).trans_lt (Nat.lt_succ_self _)
    · exact (afterPrimary_le _ _).trans_lt (Nat.lt_succ_self _)
    · exact (afterPrimary_le _ _).trans_lt (Nat.lt_succ_self _)
    · split
      · trivial
      · split
        next h => exact (afterPrimary_le _ _).trans_lt (Nat.lt_succ_of_lt (Nat.lt_of_succ_lt ((ih.expr d _).ok h)))
        · trivial
        · trivial
        · exact Res.lt_trans_le (ih.expr d _) (Nat.le_succ _)
    · split
      · trivial
      · split
        · trivial
        · exact Res.lt_trans_le (bindR_lt (ih.cmp _ _) fun _ _ => Nat.le_refl _) (Nat.le_succ _)
    · trivial
    · trivial

theorem prog : ∀ f, Prog f
  | 0 => prog_zero
  | f + 1 => prog_succ f (prog f)

/-- **progress of `parseExpression`**: on every token list, for every fuel and depth, a successful parse hands back
    strictly fewer tokens than it was given -/
theorem pExpr_progress (f d : Nat) (ts : List PTok) (e : Ex) (rest : List PTok) (h : pExpr f d ts = .ok e rest) :
    rest.length < ts.length :=
  ((prog f).expr d ts).ok h

end GoSQLXModel.ExprParse
