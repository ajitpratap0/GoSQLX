import GoSQLXModel.Model.ExprGrammar
/-!
# Every model expression, written with the parentheses precedence requires, parses back to itself

`parse_render`: for every well-formed `g` of the reference grammar (Model/ExprGrammar.lean), every continuation `X`
that starts no operator, and enough room under the depth limit, `pExpr (render 1 g ++ X) = ok g X` — precedence, left
associativity, parentheses overriding, predicates, calls; binary and LIKE operators, identifiers, numbers, strings and
booleans with their written spelling (`toEx` does not keep the spelling of a prefix NOT, of NULL or of the keywords of
the predicates), nothing else.

Proof shape: `Ev P r` says `P f = r` for all sufficient fuel. Every function of the ladder makes its value at fuel
`f + 1` of at most two calls at fuel `f` (`ev_step2`), which gives one unfolding lemma per branch of the parser. One
statement per level of the ladder, in continuation-passing form (`P8T` … `A1T`; `LevT k` as a function of the level). Each
level follows from the next one up, except at the tree's own level: the levels above it read the tree in parentheses,
as a primary (`levT_step`, `lem_of_native`). So one case lemma per constructor of the grammar, for the tree's own level
only, assembled by structural recursion over the (mutual) grammar.
-/
namespace GoSQLXModel.ExprParse

def Ev (P : Nat → Res) (r : Res) : Prop := ∃ f0, ∀ f, f0 ≤ f → P f = r
def EvL (P : Nat → ResL) (r : ResL) : Prop := ∃ f0, ∀ f, f0 ≤ f → P f = r

theorem ev_const (r : Res) : Ev (fun _ => r) r := ⟨0, fun _ _ => rfl⟩

/-- One step of fuel. Every function of the ladder computes its value at fuel `f + 1` from the values of at most two
    calls at fuel `f`; when those are eventually `p` and `q`, the function is eventually what it makes of `p` and `q`.
    Stated for any result types, so that it serves `Ev`, `EvL` and the branches that mix them. -/
theorem ev_step2 {α β γ : Type} {P : Nat → α} {p : α} {Q : Nat → β} {q : β} {F : Nat → γ} {R : γ}
    (h1 : ∃ f0, ∀ f, f0 ≤ f → P f = p) (h2 : ∃ f0, ∀ f, f0 ≤ f → Q f = q)
    (h : ∀ f, P f = p → Q f = q → F (f + 1) = R) : ∃ f0, ∀ f, f0 ≤ f → F f = R := by
  obtain ⟨a, ha⟩ := h1
  obtain ⟨b, hb⟩ := h2
  refine ⟨max a b + 1, fun f hf => ?_⟩
  match f, hf with
  | g + 1, hf =>
    have hg := Nat.le_of_succ_le_succ hf
    exact h g (ha g (Nat.le_trans (Nat.le_max_left a b) hg)) (hb g (Nat.le_trans (Nat.le_max_right a b) hg))

theorem ev_step {α γ : Type} {P : Nat → α} {p : α} {F : Nat → γ} {R : γ} (h1 : ∃ f0, ∀ f, f0 ≤ f → P f = p)
    (h : ∀ f, P f = p → F (f + 1) = R) : ∃ f0, ∀ f, f0 ≤ f → F f = R :=
  ev_step2 h1 h1 fun f ha _ => h f ha

theorem ev_now {γ : Type} {F : Nat → γ} {R : γ} (h : ∀ f, F (f + 1) = R) : ∃ f0, ∀ f, f0 ≤ f → F f = R :=
  ⟨1, fun f hf => by
    match f, hf with
    | g + 1, _ => exact h g⟩

def HeadNot (X : List PTok) (k : TK) : Prop := ∀ t rest, X = t :: rest → t.k ≠ k
def HeadPlain (X : List PTok) : Prop := ∀ t rest, X = t :: rest → plainLit t.lit = true

/-- `HeadNot` in the shape of the side conditions of the equations of a `match` with a default case -/
theorem HeadNot.elim {X : List PTok} {k : TK} (h : HeadNot X k) (lit : String) (rest : List PTok) :
    X = ⟨k, lit⟩ :: rest → False :=
  fun e => h _ _ e rfl

theorem headNot_nil {k : TK} : HeadNot [] k := by intro t rest e; cases e
theorem headNot_cons {t : PTok} {rest : List PTok} {k : TK} : HeadNot (t :: rest) k ↔ t.k ≠ k :=
  ⟨fun h => h _ _ rfl, fun h _ _ e => by cases e; exact h⟩
theorem headPlain_cons {t : PTok} {rest : List PTok} : HeadPlain (t :: rest) ↔ plainLit t.lit = true :=
  ⟨fun h => h _ _ rfl, fun h _ _ e => by cases e; exact h⟩

theorem ev_pExpr {d ts R} (hd : d + 1 ≤ maxDepth) (h : Ev (fun f => pOr f (d + 1) ts) R) : Ev (fun f => pExpr f d ts) R :=
  ev_step h fun f ha => by rw [pExpr, if_neg (by omega), ha]

theorem ev_pOr {d ts l r R} (h1 : Ev (fun f => pAnd f d ts) (.ok l r)) (h2 : Ev (fun f => lOr f d l r) R) :
    Ev (fun f => pOr f d ts) R :=
  ev_step2 h1 h2 fun f ha hb => by simp only [pOr, ha, hb]
theorem ev_lOr_step {d l lit ts r rest R} (h1 : Ev (fun f => pAnd f d ts) (.ok r rest))
    (h2 : Ev (fun f => lOr f d (.bin lit l r) rest) R) : Ev (fun f => lOr f d l (⟨.or, lit⟩ :: ts)) R :=
  ev_step2 h1 h2 fun f ha hb => by simp only [lOr, ha, hb]

theorem ev_lOr_stop {d l ts} (h : HeadNot ts .or) : Ev (fun f => lOr f d l ts) (.ok l ts) :=
  ev_now fun f => by rw [lOr]; exact h.elim

theorem ev_pAnd {d ts l r R} (h1 : Ev (fun f => pCmp f d ts) (.ok l r)) (h2 : Ev (fun f => lAnd f d l r) R) :
    Ev (fun f => pAnd f d ts) R :=
  ev_step2 h1 h2 fun f ha hb => by simp only [pAnd, ha, hb]
theorem ev_lAnd_step {d l lit ts r rest R} (h1 : Ev (fun f => pCmp f d ts) (.ok r rest))
    (h2 : Ev (fun f => lAnd f d (.bin lit l r) rest) R) : Ev (fun f => lAnd f d l (⟨.and, lit⟩ :: ts)) R :=
  ev_step2 h1 h2 fun f ha hb => by simp only [lAnd, ha, hb]
theorem ev_lAnd_stop {d l ts} (h : HeadNot ts .and) : Ev (fun f => lAnd f d l ts) (.ok l ts) :=
  ev_now fun f => by rw [lAnd]; exact h.elim

theorem ev_pCmp {d ts l rest R} (h1 : Ev (fun f => pCat f d ts) (.ok l rest)) (h2 : Ev (fun f => pTail f d l rest) R) :
    Ev (fun f => pCmp f d ts) R :=
  ev_step2 h1 h2 fun f ha hb => by simp only [pCmp, ha, hb]

theorem notPrefix_false {ts : List PTok} (h : HeadNot ts .not) : notPrefix ts = false := by
  rw [notPrefix]; exact fun lit _ _ => h.elim lit _

theorem ev_pTail_plain {d l ts R} (h : HeadNot ts .not) (h2 : Ev (fun f => pPred f d false l ts) R) :
    Ev (fun f => pTail f d l ts) R :=
  ev_step h2 fun f ha => by simp only [pTail, notPrefix_false h, Bool.false_eq_true, if_false, ha]

theorem ev_pTail_neg {d l nl t2 rest R} (h : notLookahead t2 = true) (h2 : Ev (fun f => pPred f d true l (t2 :: rest)) R) :
    Ev (fun f => pTail f d l (⟨.not, nl⟩ :: t2 :: rest)) R :=
  ev_step h2 fun f ha => by simp only [pTail, notPrefix, h, if_true, List.tail_cons, ha]

theorem plain_parts {s : String} (h : plainLit s = true) :
    isWord s "ILIKE" = false ∧ isWord s "REGEXP" = false ∧ isWord s "RLIKE" = false := by
  simp only [plainLit, Bool.not_eq_true', Bool.or_eq_false_iff] at h
  exact ⟨h.1.1, h.1.2, h.2⟩

theorem isLikeOp_false {t : PTok} (hk : t.k ≠ .like) (hp : plainLit t.lit = true) : isLikeOp t = false := by
  simp [isLikeOp, hk, (plain_parts hp).1]
theorem isRegexpOp_false {t : PTok} (hp : plainLit t.lit = true) : isRegexpOp t = false := by
  simp [isRegexpOp, (plain_parts hp).2.1, (plain_parts hp).2.2]

/-- the continuation is none of the things parseComparisonExpression acts on, nor makes the real parser continue in an
    unmodelled way -/
def CmpStop (X : List PTok) : Prop :=
  HeadNot X .cmp ∧ HeadNot X .other ∧ HeadNot X .not ∧ HeadNot X .cont ∧
  HeadNot X .between ∧ HeadNot X .like ∧ HeadNot X .in_ ∧ HeadNot X .is ∧ HeadPlain X

theorem ev_pTail_stop {d l rest} (h : CmpStop rest) : Ev (fun f => pTail f d l rest) (.ok l rest) := by
  refine ev_pTail_plain h.2.2.1 (ev_now fun f => ?_)
  cases rest with
  | nil => rw [pPred]
  | cons t rest' =>
    obtain ⟨h1, h2, _, h4, h5, h6, h7, h8, h9⟩ := h
    have hp := h9 _ _ rfl
    simp [pPred, h1 _ _ rfl, h2 _ _ rfl, h4 _ _ rfl, h5 _ _ rfl, h7 _ _ rfl, h8 _ _ rfl, isLikeOp_false (h6 _ _ rfl) hp,
      isRegexpOp_false hp, continuesUnmodelled]

theorem ev_pTail_cmp {d l lit ts' r rest} (hp : plainLit lit = true) (h : Ev (fun f => pCat f d ts') (.ok r rest)) :
    Ev (fun f => pTail f d l (⟨.cmp, lit⟩ :: ts')) (.ok (.bin lit l r) rest) :=
  ev_pTail_plain (headNot_cons.2 (by simp)) <| ev_step h fun f ha => by
    simp [pPred, isLikeOp_false (t := ⟨.cmp, lit⟩) (by simp) hp, isRegexpOp_false (t := ⟨.cmp, lit⟩) hp, ha]

theorem ev_pTail_is {d l lit ts} (hp : plainLit lit = true) :
    Ev (fun f => pTail f d l (⟨.is, lit⟩ :: ts)) (pIs l ts) :=
  ev_pTail_plain (headNot_cons.2 (by simp)) <| ev_now fun f => by
    simp [pPred, isLikeOp_false (t := ⟨.is, lit⟩) (by simp) hp, isRegexpOp_false (t := ⟨.is, lit⟩) hp]

theorem ev_pPred_between {d neg l lit ts R} (h : Ev (fun f => pBetween f d neg l ts) R) :
    Ev (fun f => pPred f d neg l (⟨.between, lit⟩ :: ts)) R :=
  ev_step h fun f ha => by simp [pPred, ha]

theorem ev_pPred_like {d neg l} {t : PTok} {ts R} (hk : t.k ≠ .between) (hl : isLikeOp t = true)
    (h : Ev (fun f => pLike f d neg t.lit l ts) R) : Ev (fun f => pPred f d neg l (t :: ts)) R :=
  ev_step h fun f ha => by simp [pPred, hk, hl, ha]

theorem ev_pPred_in {d neg l lit ts R} (hp : plainLit lit = true) (h : Ev (fun f => pIn f d neg l ts) R) :
    Ev (fun f => pPred f d neg l (⟨.in_, lit⟩ :: ts)) R :=
  ev_step h fun f ha => by
    simp [pPred, isLikeOp_false (t := ⟨.in_, lit⟩) (by simp) hp, isRegexpOp_false (t := ⟨.in_, lit⟩) hp, ha]

theorem ev_pBetween {d neg l ts lo alit r2 hi rest} (h1 : Ev (fun f => pCat f d ts) (.ok lo (⟨.and, alit⟩ :: r2)))
    (h2 : Ev (fun f => pCat f d r2) (.ok hi rest)) :
    Ev (fun f => pBetween f d neg l ts) (.ok (.between neg l lo hi) rest) :=
  ev_step2 h1 h2 fun f ha hb => by simp only [pBetween, ha, hb]

theorem ev_pLike {d neg op l ts pat rest} (h : Ev (fun f => pPrim f d ts) (.ok pat rest)) :
    Ev (fun f => pLike f d neg op l ts) (.ok (.like neg op l pat) rest) :=
  ev_step h fun f ha => by simp only [pLike, ha]

theorem ev_pIn {d neg l plit r1 items rest} (hh : HeadNot r1 .other)
    (h : EvL (fun f => pInList f d r1) (.ok items rest)) :
    Ev (fun f => pIn f d neg l (⟨.lparen, plit⟩ :: r1)) (.ok (.inlist neg l items) rest) :=
  ev_step h fun f ha => by rw [pIn, ha]; exact hh.elim

theorem evL_pInList_last {d ts v clit rest} (h : Ev (fun f => pExpr f d ts) (.ok v (⟨.rparen, clit⟩ :: rest))) :
    EvL (fun f => pInList f d ts) (.ok (.cons v .nil) rest) :=
  ev_step h fun f ha => by simp only [pInList, ha]

theorem evL_pInList_cons {d ts v clit r vs rest} (h1 : Ev (fun f => pExpr f d ts) (.ok v (⟨.comma, clit⟩ :: r)))
    (h2 : EvL (fun f => pInList f d r) (.ok vs rest)) :
    EvL (fun f => pInList f d ts) (.ok (.cons v vs) rest) :=
  ev_step2 h1 h2 fun f ha hb => by simp only [pInList, ha, hb]

theorem ev_pCat {d ts l r R} (h1 : Ev (fun f => pAdd f d ts) (.ok l r)) (h2 : Ev (fun f => lCat f d l r) R) :
    Ev (fun f => pCat f d ts) R :=
  ev_step2 h1 h2 fun f ha hb => by simp only [pCat, ha, hb]
theorem ev_lCat_step {d l lit ts r rest R} (h1 : Ev (fun f => pAdd f d ts) (.ok r rest))
    (h2 : Ev (fun f => lCat f d (.bin lit l r) rest) R) : Ev (fun f => lCat f d l (⟨.cat, lit⟩ :: ts)) R :=
  ev_step2 h1 h2 fun f ha hb => by simp only [lCat, ha, hb]
theorem ev_lCat_stop {d l ts} (h : HeadNot ts .cat) : Ev (fun f => lCat f d l ts) (.ok l ts) :=
  ev_now fun f => by rw [lCat]; exact h.elim

theorem ev_pAdd {d ts l r R} (h1 : Ev (fun f => pMul f d ts) (.ok l r)) (h2 : Ev (fun f => lAdd f d l r) R) :
    Ev (fun f => pAdd f d ts) R :=
  ev_step2 h1 h2 fun f ha hb => by simp only [pAdd, ha, hb]
theorem ev_lAdd_step {d l lit ts r rest R} {k : TK} (hk : k = .plus ∨ k = .minus) (h1 : Ev (fun f => pMul f d ts) (.ok r rest))
    (h2 : Ev (fun f => lAdd f d (.bin lit l r) rest) R) : Ev (fun f => lAdd f d l (⟨k, lit⟩ :: ts)) R :=
  ev_step2 h1 h2 fun f ha hb => by rcases hk with rfl | rfl <;> simp only [lAdd, ha, hb]
theorem ev_lAdd_stop {d l ts} (h1 : HeadNot ts .plus) (h2 : HeadNot ts .minus) : Ev (fun f => lAdd f d l ts) (.ok l ts) :=
  ev_now fun f => by
    rw [lAdd]
    · exact h1.elim
    · exact h2.elim

theorem ev_pMul {d ts l r R} (h1 : Ev (fun f => pPrim f d ts) (.ok l r)) (h2 : Ev (fun f => lMul f d l r) R) :
    Ev (fun f => pMul f d ts) R :=
  ev_step2 h1 h2 fun f ha hb => by simp only [pMul, ha, hb]

theorem ev_lMul_step {d l lit ts r rest R} {k : TK} (hk : k = .star ∨ k = .div ∨ k = .mod) (hne : ts ≠ [])
    (h1 : Ev (fun f => pPrim f d ts) (.ok r rest)) (h2 : Ev (fun f => lMul f d (.bin lit l r) rest) R) :
    Ev (fun f => lMul f d l (⟨k, lit⟩ :: ts)) R :=
  have hs : Ev (fun f => mulStep f d l lit ts) R := ev_step2 h1 h2 fun f ha hb => by
    rw [mulStep, ha]
    · exact hb
    · exact hne
  ev_step hs fun f ha => by rcases hk with rfl | rfl | rfl <;> simp only [lMul, ha]

theorem ev_lMul_stop {d l ts} (h : HeadNot ts .star ∧ HeadNot ts .div ∧ HeadNot ts .mod) :
    Ev (fun f => lMul f d l ts) (.ok l ts) :=
  ev_now fun f => by
    rw [lMul]
    · exact h.1.elim
    · exact h.2.1.elim
    · exact h.2.2.elim

/-- the continuation does not extend a primary (nor a call) -/
def PrimStop (X : List PTok) : Prop := HeadNot X .cont ∧ HeadNot X .lparen ∧ HeadNot X .other

theorem afterPrimary_ok {e : Ex} {X : List PTok} (h : HeadNot X .cont) : afterPrimary e X = .ok e X := by
  rw [afterPrimary]; exact h.elim

theorem afterCall_ok {n : String} {args : ExL} {X : List PTok} (hn : isWord n "MATCH" = false) (h : PrimStop X) :
    afterCall n args X = .ok (.call n args) X := by
  cases X with
  | nil => rfl
  | cons t X' => simp [afterCall, h.2.2 _ _ rfl, hn, afterPrimary_ok h.1]

theorem ev_pPrim_atom {d : Nat} {a : Atom} {X : List PTok} (h : PrimStop X) :
    Ev (fun f => pPrim f d (a.tok :: X)) (.ok a.ex X) :=
  ev_now fun f => by
    cases a with
    | ident n =>
      rw [Atom.tok, pPrim, Atom.ex]
      · exact afterPrimary_ok h.1
      · exact fun lit _ _ => h.2.1.elim lit _
      · exact h.2.1.elim
    | _ => rw [Atom.tok, pPrim, Atom.ex]; exact afterPrimary_ok h.1

theorem ev_pPrim_paren {d ts e rest} (hh : HeadNot ts .other) (h1 : Ev (fun f => pExpr f d ts) (.ok e (rp :: rest)))
    (hs : HeadNot rest .cont) : Ev (fun f => pPrim f d (lp :: ts)) (.ok e rest) :=
  ev_step h1 fun f ha => by
    rw [lp, pPrim, ha]
    · exact afterPrimary_ok hs
    · exact hh.elim

theorem ev_pPrim_not {d lit ts e rest} (hh : HeadNot ts .other) (hd : d + 1 ≤ maxDepth)
    (h1 : Ev (fun f => pCmp f (d + 1) ts) (.ok e rest)) : Ev (fun f => pPrim f d (⟨.not, lit⟩ :: ts)) (.ok (.not e) rest) :=
  ev_step h1 fun f ha => by rw [pPrim, if_neg (by omega), ha]; exact hh.elim

theorem ev_pPrim_call0 {d n l1 l2 X} : Ev (fun f => pPrim f d (⟨.ident, n⟩ :: ⟨.lparen, l1⟩ :: ⟨.rparen, l2⟩ :: X)) (afterCall n .nil X) :=
  ev_now fun f => by rw [pPrim]

theorem ev_pPrim_call {d n l1 r1 args r2} (hh : HeadNot r1 .rparen) (h : EvL (fun f => pArgs f d r1) (.ok args r2)) :
    Ev (fun f => pPrim f d (⟨.ident, n⟩ :: ⟨.lparen, l1⟩ :: r1)) (afterCall n args r2) :=
  ev_step h fun f ha => by rw [pPrim, ha]; exact hh.elim

theorem evL_pArgs_last {d ts v clit rest} (hh : HeadNot ts .other) (h : Ev (fun f => pExpr f d ts) (.ok v (⟨.rparen, clit⟩ :: rest))) :
    EvL (fun f => pArgs f d ts) (.ok (.cons v .nil) rest) :=
  ev_step h fun f ha => by rw [pArgs, ha]; exact hh.elim

theorem evL_pArgs_cons {d ts v clit r vs rest} (hh : HeadNot ts .other) (h1 : Ev (fun f => pExpr f d ts) (.ok v (⟨.comma, clit⟩ :: r)))
    (h2 : EvL (fun f => pArgs f d r) (.ok vs rest)) :
    EvL (fun f => pArgs f d ts) (.ok (.cons v vs) rest) :=
  ev_step2 h1 h2 fun f ha hb => by rw [pArgs, ha]; simp only [hb]; exact hh.elim

/-! Names: `P8` primary (level 8), `M7` `* / %`, `A6` `+ -`, `K5` `||`, `C` what `pCmp` reads (levels 4 and 3), `A2` AND,
    `A1` OR; `Nk X`: `X` starts nothing that level `k` or a level above it would consume.  A statement with an `R` leaves
    open what the level's own loop makes of `X` and asks `Nk` only for the level above: so `A6T` asks `N7`. -/
def N7 (X : List PTok) : Prop := HeadNot X .star ∧ HeadNot X .div ∧ HeadNot X .mod
def N6 (X : List PTok) : Prop := N7 X ∧ HeadNot X .plus ∧ HeadNot X .minus
def N5 (X : List PTok) : Prop := N6 X ∧ HeadNot X .cat
def N4 (X : List PTok) : Prop := N5 X ∧ CmpStop X
def N2 (X : List PTok) : Prop := N4 X ∧ HeadNot X .and
def N1 (X : List PTok) : Prop := N2 X ∧ HeadNot X .or

/-! With the head of the continuation in hand, every stop predicate is a condition on its class (`headNot_cons`) and
    its spelling (`headPlain_cons`), which `simp` decides once the class is known: here and in the case lemmas below. -/
attribute [local simp] PrimStop CmpStop N7 N6 N5 N4 N2 headNot_cons headPlain_cons

theorem rp_plain : plainLit ")" = true := by decide +kernel
theorem comma_plain : plainLit "," = true := by decide +kernel

theorem rp_stops (X : List PTok) : PrimStop (rp :: X) ∧ N2 (rp :: X) ∧ HeadNot (rp :: X) .or := by
  simp [rp, rp_plain]
theorem comma_stops (X : List PTok) : PrimStop (comma :: X) ∧ N2 (comma :: X) ∧ HeadNot (comma :: X) .or := by
  simp [comma, comma_plain]

theorem mul_stops {k : TK} (hk : k = .star ∨ k = .div ∨ k = .mod) (lit : String) (rest : List PTok) :
    PrimStop (⟨k, lit⟩ :: rest) := by
  rcases hk with rfl | rfl | rfl <;> simp
theorem add_stops {k : TK} (hk : k = .plus ∨ k = .minus) (lit : String) (rest : List PTok) :
    PrimStop (⟨k, lit⟩ :: rest) ∧ N7 (⟨k, lit⟩ :: rest) := by
  rcases hk with rfl | rfl <;> simp

theorem op_prec (op : Op) : 1 ≤ op.prec ∧ op.prec ≤ 7 := by cases op <;> decide

theorem prec_le (g : G) : 1 ≤ g.prec ∧ g.prec ≤ 8 := by
  cases g with
  | bin op lit l r => exact ⟨(op_prec op).1, Nat.le_succ_of_le (op_prec op).2⟩
  | _ => simp [G.prec]

/-- `render k` and `need k` depend on `k` only through its comparison with the tree's own level: above that level
    the tree is written as at level 1, in parentheses, and costs one level of depth more -/
theorem render_need (g : G) {k : Nat} (hk : k ≤ 8) :
    render k g = (if g.prec < k then lp :: (render 1 g ++ [rp]) else render 1 g) ∧
    need k g = (if g.prec < k then need 1 g + 1 else need 1 g) := by
  cases g with
  | atom a | call n args => simp only [render, need, G.prec, Nat.not_lt.2 hk, if_false, and_self]
  | bin op lit l r => simp only [render, need, G.prec, Nat.not_lt.2 (op_prec op).1, if_false, and_self]
  | _ => simp only [render, need, G.prec, Nat.reduceLT, if_false, and_self]

theorem render_low (g : G) {k : Nat} (h : k ≤ g.prec) : render k g = render 1 g := by
  rw [(render_need g (Nat.le_trans h (prec_le g).2)).1, if_neg (Nat.not_lt.2 h)]

theorem render_high (g : G) {k : Nat} (h : g.prec < k) (hk : k ≤ 8) : render k g = lp :: (render 1 g ++ [rp]) := by
  rw [(render_need g hk).1, if_pos h]

theorem render_need_succ {g : G} {k : Nat} (hk : k < 8) (h : k ≠ g.prec) : render k g = render (k + 1) g ∧ need k g = need (k + 1) g := by
  have e : g.prec < k ↔ g.prec < k + 1 := by omega
  rw [(render_need g (Nat.le_of_lt hk)).1, (render_need g (Nat.le_of_lt hk)).2, (render_need g hk).1, (render_need g hk).2]
  simp only [e, and_self]

/-- the first token is neither of a class the model leaves out nor `)`: what `pPrim` and the list readers test before
    they read an expression -/
def Starts (l : List PTok) : Prop := ∃ t rest, l = t :: rest ∧ t.k ≠ .other ∧ t.k ≠ .rparen

theorem Starts.append {l : List PTok} (h : Starts l) (X : List PTok) : Starts (l ++ X) :=
  let ⟨t, rest, e, ht⟩ := h
  ⟨t, rest ++ X, e ▸ rfl, ht⟩

theorem Starts.paren {b : List PTok} (h : Starts b) (c : Prop) [Decidable c] : Starts (if c then lp :: (b ++ [rp]) else b) := by
  split
  · exact ⟨lp, _, rfl, nofun, nofun⟩
  · exact h

theorem render_head : (g : G) → (k : Nat) → Starts (render k g)
  | .atom a, k => ⟨a.tok, [], rfl, by cases a <;> exact ⟨nofun, nofun⟩⟩
  | .call n args, k => ⟨⟨.ident, n⟩, _, rfl, nofun, nofun⟩
  | .bin op lit l r, k => ((render_head l _).append _).paren _
  | .not lit e, k => Starts.paren ⟨⟨.not, lit⟩, _, rfl, nofun, nofun⟩ _
  | .isnull a b c e, k | .between a b c e _ _, k | .like a b e c, k | .inlist a b e c _, k =>
    ((render_head e 5).append _).paren _

theorem render_headNot {c : TK} (hc : c = .other ∨ c = .rparen) (k : Nat) (g : G) (X : List PTok) :
    HeadNot (render k g ++ X) c := by
  obtain ⟨t, rest, e, h1, h2⟩ := render_head g k
  rw [e]
  rcases hc with rfl | rfl
  · exact headNot_cons.2 h1
  · exact headNot_cons.2 h2

theorem render_ne_nil (k : Nat) (g : G) (X : List PTok) : render k g ++ X ≠ [] := by
  obtain ⟨t, rest, e, _⟩ := render_head g k
  rw [e]
  exact List.cons_ne_nil _ _

abbrev P8T (g : G) := ∀ d X, need 8 g + d ≤ maxDepth → PrimStop X → Ev (fun f => pPrim f d (render 8 g ++ X)) (.ok g.toEx X)
abbrev M7T (g : G) := ∀ d X R, need 7 g + d ≤ maxDepth → PrimStop X → Ev (fun f => lMul f d g.toEx X) R →
        Ev (fun f => pMul f d (render 7 g ++ X)) R
abbrev A6T (g : G) := ∀ d X R, need 6 g + d ≤ maxDepth → PrimStop X → N7 X → Ev (fun f => lAdd f d g.toEx X) R →
        Ev (fun f => pAdd f d (render 6 g ++ X)) R
abbrev K5T (g : G) := ∀ d X R, need 5 g + d ≤ maxDepth → PrimStop X → N6 X → Ev (fun f => lCat f d g.toEx X) R →
        Ev (fun f => pCat f d (render 5 g ++ X)) R
abbrev CT (k : Nat) (g : G) := ∀ d X, need k g + d ≤ maxDepth → PrimStop X → N4 X →
        Ev (fun f => pCmp f d (render k g ++ X)) (.ok g.toEx X)
abbrev A2T (g : G) := ∀ d X R, need 2 g + d ≤ maxDepth → PrimStop X → N4 X → Ev (fun f => lAnd f d g.toEx X) R →
        Ev (fun f => pAnd f d (render 2 g ++ X)) R
abbrev A1T (g : G) := ∀ d X R, need 1 g + d ≤ maxDepth → PrimStop X → N2 X → Ev (fun f => lOr f d g.toEx X) R →
        Ev (fun f => pOr f d (render 1 g ++ X)) R

structure Lem (g : G) : Prop where
  P8 : P8T g
  M7 : M7T g
  A6 : A6T g
  K5 : K5T g
  C4 : CT 4 g
  C3 : CT 3 g
  A2 : A2T g
  A1 : A1T g

def LemL : GL → Prop
  | .nil => True
  | .cons g rest => Lem g ∧ LemL rest

def LevT : Nat → G → Prop
  | 8, g => P8T g | 7, g => M7T g | 6, g => A6T g | 5, g => K5T g | 4, g => CT 4 g | 3, g => CT 3 g | 2, g => A2T g
  | 1, g => A1T g | _, _ => True

theorem K5_closed {g : G} (K5 : K5T g) {d X} (hd : need 5 g + d ≤ maxDepth) (hp : PrimStop X) (hn : N5 X) :
    Ev (fun f => pCat f d (render 5 g ++ X)) (.ok g.toEx X) :=
  K5 d X _ hd hp hn.1 (ev_lCat_stop hn.2)

theorem lift_M7 {g : G} (hr : render 7 g = render 8 g ∧ need 7 g = need 8 g) (P8 : P8T g) : M7T g :=
  fun d X _ hd hp h => hr.1 ▸ ev_pMul (P8 d X (hr.2 ▸ hd) hp) h

theorem lift_A6 {g : G} (hr : render 6 g = render 7 g ∧ need 6 g = need 7 g) (M7 : M7T g) : A6T g :=
  fun d X _ hd hp hn h => hr.1 ▸ ev_pAdd (M7 d X _ (hr.2 ▸ hd) hp (ev_lMul_stop hn)) h

theorem lift_K5 {g : G} (hr : render 5 g = render 6 g ∧ need 5 g = need 6 g) (A6 : A6T g) : K5T g :=
  fun d X _ hd hp hn h => hr.1 ▸ ev_pCat (A6 d X _ (hr.2 ▸ hd) hp hn.1 (ev_lAdd_stop hn.2.1 hn.2.2)) h

theorem lift_C {g : G} {k : Nat} (hr : render k g = render 5 g ∧ need k g = need 5 g) (K5 : K5T g) : CT k g :=
  fun _ _ hd hp hn => hr.1 ▸ ev_pCmp (K5_closed K5 (hr.2 ▸ hd) hp hn.1) (ev_pTail_stop hn.2)

theorem lift_A2 {g : G} (hr : render 2 g = render 3 g ∧ need 2 g = need 3 g) (C3 : CT 3 g) : A2T g :=
  fun d X _ hd hp hn h => hr.1 ▸ ev_pAnd (C3 d X (hr.2 ▸ hd) hp hn) h

theorem lift_A1 {g : G} (hr : render 1 g = render 2 g ∧ need 1 g = need 2 g) (A2 : A2T g) : A1T g :=
  fun d X _ hd hp hn h => hr.1 ▸ ev_pOr (A2 d X _ (hr.2 ▸ hd) hp hn.1 (ev_lAnd_stop hn.2)) h

/-- Each level follows from the next one up, except at the tree's own level, where the rendering changes: the levels
    above it read the tree in parentheses. -/
theorem levT_step {g : G} : (k : Nat) → k < 8 → k ≠ g.prec → LevT (k + 1) g → LevT k g
  | 7, h8, h => lift_M7 (render_need_succ h8 h)
  | 6, h8, h => lift_A6 (render_need_succ h8 h)
  | 5, h8, h => lift_K5 (render_need_succ h8 h)
  | 4, h8, h => lift_C (render_need_succ h8 h)
  | 3, h8, h => fun C4 d X hd => (render_need_succ h8 h).1 ▸ C4 d X ((render_need_succ h8 h).2 ▸ hd)
  | 2, h8, h => lift_A2 (render_need_succ h8 h)
  | 1, h8, h => lift_A1 (render_need_succ h8 h)
  | 0, _, _ => fun _ => trivial

/-- parseExpression at any depth, from the statement of level 1; the inside of a parenthesis and the items of a list are
    the case of a continuation that starts with `)` or `,` (`rp_stops`, `comma_stops`) -/
theorem expr_of_A1 {g : G} (A1 : A1T g) (d : Nat) {X : List PTok} (hp : PrimStop X) (hn : N1 X)
    (hd : need 1 g + 1 + d ≤ maxDepth) : Ev (fun f => pExpr f d (render 1 g ++ X)) (.ok g.toEx X) :=
  ev_pExpr (by omega) (A1 (d + 1) X _ (by omega) hp hn.1 (ev_lOr_stop hn.2))

theorem paren_P8 {g : G} (hp : g.prec < 8) (A1 : A1T g) : P8T g := by
  intro d X hd hX
  rw [render_high g hp (Nat.le_refl _), List.cons_append, List.append_assoc]
  rw [(render_need g (Nat.le_refl _)).2, if_pos hp] at hd
  exact ev_pPrim_paren (render_headNot (.inl rfl) 1 g _) (expr_of_A1 A1 d (rp_stops X).1 (rp_stops X).2 (by omega)) hX.1

/-- down from level `b` to level `a`, when the tree's own level is not among those left -/
theorem levT_down {g : G} {a b : Nat} (hab : a ≤ b) (hb : b ≤ 8) (hne : ∀ k, a ≤ k → k < b → k ≠ g.prec) (h : LevT b g) :
    LevT a g := by
  induction hab with
  | refl => exact h
  | step hk ih =>
    exact ih (Nat.le_of_succ_le hb) (fun k h1 h2 => hne k h1 (Nat.lt_succ_of_lt h2)) (levT_step _ hb (hne _ hk (Nat.lt_succ_self _)) h)

/-- **all levels from the tree's own**: down to level 1; from there the parenthesised tree is a primary, which gives
    level 8, and down again to the level above the tree's own -/
theorem lem_of_native {g : G} {p : Nat} (hp : g.prec = p) (h : LevT p g) : Lem g := by
  subst hp
  have ⟨h1, h8⟩ := prec_le g
  have low {k : Nat} (hk : k ≤ g.prec) : LevT k g := levT_down hk h8 (fun _ _ => Nat.ne_of_lt) h
  have top : LevT 8 g := if e : g.prec = 8 then e ▸ h else paren_P8 (by omega) (low h1)
  have all (k : Nat) (hk : k ≤ 8 := by decide) : LevT k g :=
    if hlt : g.prec < k then levT_down hk (Nat.le_refl 8) (fun j hj _ => by omega) top else low (by omega)
  exact ⟨all 8, all 7, all 6, all 5, all 4, all 3, all 2, all 1⟩

theorem max_le_of {a b c d : Nat} (h : max a b + d ≤ c) : a + d ≤ c ∧ b + d ≤ c := by
  omega

theorem lem_atom (a : Atom) : Lem (G.atom a) :=
  lem_of_native (p := 8) rfl fun _ _ _ hp => ev_pPrim_atom hp

theorem bin_native {op : Op} {lit : String} {l r : G} {k d m : Nat} (hd : need k (.bin op lit l r) + d ≤ m) {a b : Nat}
    (hk : op.prec = k) (hs : op.sides = (a, b)) (X : List PTok) :
    render k (.bin op lit l r) ++ X = render a l ++ ⟨op.tk, lit⟩ :: (render b r ++ X) ∧ need a l + d ≤ m ∧ need b r + d ≤ m := by
  subst hk
  simp only [need, render, hs, Nat.lt_irrefl, if_false, List.append_assoc, List.cons_append, true_and] at hd ⊢
  exact max_le_of hd

theorem lem_mul {op : Op} (hop : op = .star ∨ op = .div ∨ op = .mod) (lit : String) (l r : G) (ihl : Lem l) (ihr : Lem r) :
    Lem (G.bin op lit l r) := by
  have hs : op.prec = 7 ∧ op.sides = (7, 8) ∧ (op.tk = .star ∨ op.tk = .div ∨ op.tk = .mod) := by
    rcases hop with rfl | rfl | rfl <;> decide
  refine lem_of_native (p := 7) hs.1 fun d X R hd hp h => ?_
  obtain ⟨e, hdl, hdr⟩ := bin_native hd hs.1 hs.2.1 X
  rw [e]
  exact ihl.M7 d _ R hdl (mul_stops hs.2.2 lit _) (ev_lMul_step hs.2.2 (render_ne_nil 8 r X) (ihr.P8 d X hdr hp) h)

theorem lem_add {op : Op} (hop : op = .plus ∨ op = .minus) (lit : String) (l r : G) (ihl : Lem l) (ihr : Lem r) :
    Lem (G.bin op lit l r) := by
  have hs : op.prec = 6 ∧ op.sides = (6, 7) ∧ (op.tk = .plus ∨ op.tk = .minus) := by
    rcases hop with rfl | rfl <;> decide
  refine lem_of_native (p := 6) hs.1 fun d X R hd hp hn h => ?_
  obtain ⟨e, hdl, hdr⟩ := bin_native hd hs.1 hs.2.1 X
  have s := add_stops hs.2.2 lit (render 7 r ++ X)
  rw [e]
  exact ihl.A6 d _ R hdl s.1 s.2 (ev_lAdd_step hs.2.2 (ihr.M7 d X _ hdr hp (ev_lMul_stop hn)) h)

theorem lem_cat (lit : String) (l r : G) (ihl : Lem l) (ihr : Lem r) : Lem (G.bin .cat lit l r) := by
  refine lem_of_native (p := 5) rfl fun d X R hd hp hn h => ?_
  obtain ⟨e, hdl, hdr⟩ := bin_native hd rfl rfl X
  rw [e]
  exact ihl.K5 d _ R hdl (by simp [Op.tk]) (by simp [Op.tk]) (ev_lCat_step (ihr.A6 d X _ hdr hp hn.1 (ev_lAdd_stop hn.2.1 hn.2.2)) h)

theorem lem_cmp (lit : String) (hpl : plainLit lit = true) (l r : G) (ihl : Lem l) (ihr : Lem r) : Lem (G.bin .cmp lit l r) := by
  refine lem_of_native (p := 4) rfl fun d X hd hp hn => ?_
  obtain ⟨e, hdl, hdr⟩ := bin_native hd rfl rfl X
  rw [e]
  exact ev_pCmp (K5_closed ihl.K5 hdl (by simp [Op.tk]) (by simp [Op.tk])) (ev_pTail_cmp hpl (K5_closed ihr.K5 hdr hp hn.1))

theorem lem_and (lit : String) (hpl : plainLit lit = true) (l r : G) (ihl : Lem l) (ihr : Lem r) : Lem (G.bin .and lit l r) := by
  refine lem_of_native (p := 2) rfl fun d X R hd hp hn h => ?_
  obtain ⟨e, hdl, hdr⟩ := bin_native hd rfl rfl X
  rw [e]
  exact ihl.A2 d _ R hdl (by simp [Op.tk]) (by simp [Op.tk, hpl]) (ev_lAnd_step (ihr.C3 d X hdr hp hn) h)

theorem lem_or (lit : String) (hpl : plainLit lit = true) (l r : G) (ihl : Lem l) (ihr : Lem r) : Lem (G.bin .or lit l r) := by
  refine lem_of_native (p := 1) rfl fun d X R hd hp hn h => ?_
  obtain ⟨e, hdl, hdr⟩ := bin_native hd rfl rfl X
  rw [e]
  exact ihl.A1 d _ R hdl (by simp [Op.tk]) (by simp [Op.tk, hpl]) (ev_lOr_step (ihr.A2 d X _ hdr hp hn.1 (ev_lAnd_stop hn.2)) h)

theorem lem_not (lit : String) (e : G) (ih : Lem e) : Lem (G.not lit e) := by
  refine lem_of_native (p := 3) rfl fun d X hd hp hn => ?_
  simp only [need, Nat.lt_irrefl, if_false] at hd
  have hprim := ev_pPrim_not (lit := lit) (render_headNot (.inl rfl) 3 e X) (by omega)
    (ih.C3 (d + 1) X (by omega) hp hn)
  have hmul := ev_pMul hprim (ev_lMul_stop hn.1.1.1)
  have hadd := ev_pAdd hmul (ev_lAdd_stop hn.1.1.2.1 hn.1.1.2.2)
  have := ev_pCmp (ev_pCat hadd (ev_lCat_stop hn.1.2)) (ev_pTail_stop hn.2)
  simpa [render, G.toEx] using this

theorem pIs_ok (l : Ex) (neg : Option String) (nl : String) (X : List PTok) :
    pIs l (negToks neg ++ ⟨.null, nl⟩ :: X) = .ok (.isnull neg.isSome l) X := by
  cases neg <;> rfl

theorem lem_isnull (isLit : String) (neg : Option String) (nullLit : String) (e : G) (hpl : plainLit isLit = true) (ih : Lem e) :
    Lem (G.isnull isLit neg nullLit e) := by
  refine lem_of_native (p := 4) rfl fun d X hd hp hn => ?_
  simp only [need, Nat.lt_irrefl, if_false] at hd
  have := ev_pCmp (K5_closed ih.K5 hd (by simp) (by simp)) (ev_pTail_is (ts := negToks neg ++ ⟨.null, nullLit⟩ :: X) hpl)
  rw [pIs_ok] at this
  simpa [render, G.toEx, List.append_assoc] using this

theorem pred_native {e : G} (ihe : Lem e) {neg : Option String} {kw : PTok} {rest : List PTok} {d : Nat} {T : Res}
    (hk : kw.k = .between ∨ kw.k = .like ∨ kw.k = .ilike ∨ kw.k = .in_) (hn : neg = none ∨ notLookahead kw = true)
    (hde : need 5 e + d ≤ maxDepth) (h : Ev (fun f => pPred f d neg.isSome e.toEx (kw :: rest)) T) :
    Ev (fun f => pCmp f d (render 5 e ++ (negToks neg ++ kw :: rest))) T := by
  cases neg with
  | none =>
    have s : kw.k ≠ .not ∧ PrimStop (kw :: rest) ∧ N5 (kw :: rest) := by rcases hk with h | h | h | h <;> simp [h]
    exact ev_pCmp (K5_closed ihe.K5 hde s.2.1 s.2.2) (ev_pTail_plain (headNot_cons.2 s.1) h)
  | some nl => exact ev_pCmp (K5_closed ihe.K5 hde (by simp [negToks]) (by simp [negToks])) (ev_pTail_neg (hn.resolve_left nofun) h)

theorem lem_between (neg : Option String) (bLit andLit : String) (e lo hi : G)
    (hneg : neg = none ∨ isWord bLit "BETWEEN" = true) (ihe : Lem e) (ihlo : Lem lo) (ihhi : Lem hi) :
    Lem (G.between neg bLit andLit e lo hi) := by
  refine lem_of_native (p := 4) rfl fun d X hd hp hn => ?_
  simp only [need, Nat.lt_irrefl, if_false] at hd
  obtain ⟨hde, hd2⟩ := max_le_of hd
  obtain ⟨hdlo, hdhi⟩ := max_le_of hd2
  have hb := ev_pBetween (neg := neg.isSome) (l := e.toEx) (alit := andLit) (K5_closed ihlo.K5 hdlo (by simp) (by simp)) (K5_closed ihhi.K5 hdhi hp hn.1)
  have := pred_native ihe (kw := ⟨.between, bLit⟩) (.inl rfl) (hneg.imp_right fun h => by simp [notLookahead, h]) hde
    (ev_pPred_between hb)
  simpa [render, G.toEx, List.append_assoc] using this

theorem lem_like (neg : Option String) (op : PTok) (e pat : G)
    (hop : op.k = .like ∨ (op.k = .ilike ∧ isWord op.lit "ILIKE" = true))
    (hneg : neg = none ∨ isWord op.lit "LIKE" = true ∨ isWord op.lit "ILIKE" = true) (ihe : Lem e) (ihp : Lem pat) :
    Lem (G.like neg op e pat) := by
  have hk : op.k ≠ .between ∧ (op.k = .between ∨ op.k = .like ∨ op.k = .ilike ∨ op.k = .in_) := by
    rcases hop with h | ⟨h, _⟩ <;> simp [h]
  have hl : isLikeOp op = true := by rcases hop with h | ⟨_, h⟩ <;> simp [isLikeOp, h]
  refine lem_of_native (p := 4) rfl fun d X hd hp hn => ?_
  simp only [need, Nat.lt_irrefl, if_false] at hd
  obtain ⟨hde, hdp⟩ := max_le_of hd
  have := pred_native ihe hk.2 (hneg.imp_right fun h => by rcases h with h | h <;> simp [notLookahead, h]) hde
    (ev_pPred_like hk.1 hl (ev_pLike (l := e.toEx) (ihp.P8 d X hdp hp)))
  simpa [render, G.toEx, List.append_assoc] using this

/-- the items after `(`, for either of the two functions that read such a list (they differ in what they refuse) -/
theorem items {P : Nat → Nat → List PTok → ResL}
    (last : ∀ {d ts v clit rest}, HeadNot ts .other → Ev (fun f => pExpr f d ts) (.ok v (⟨.rparen, clit⟩ :: rest)) →
      EvL (fun f => P f d ts) (.ok (.cons v .nil) rest))
    (cons : ∀ {d ts v clit r vs rest}, HeadNot ts .other → Ev (fun f => pExpr f d ts) (.ok v (⟨.comma, clit⟩ :: r)) →
      EvL (fun f => P f d r) (.ok vs rest) → EvL (fun f => P f d ts) (.ok (.cons v vs) rest)) :
    (rest : GL) → (g : G) → Lem g → LemL rest → ∀ d X, max (need 1 g + 1) (needL rest) + d ≤ maxDepth →
    EvL (fun f => P f d (render 1 g ++ (renderMore rest ++ rp :: X))) (.ok (.cons g.toEx rest.toExL) X)
  | .nil, g, hg, _, d, X, hd =>
    last (render_headNot (.inl rfl) 1 g _) (expr_of_A1 hg.A1 d (rp_stops X).1 (rp_stops X).2 (by simp only [needL] at hd; omega))
  | .cons g' rest', g, hg, hr, d, X, hd => by
    obtain ⟨h1, h2⟩ := max_le_of hd
    have := cons (render_headNot (.inl rfl) 1 g _) (expr_of_A1 hg.A1 d (comma_stops _).1 (comma_stops _).2 h1) (items last cons rest' g' hr.1 hr.2 d X h2)
    simpa [renderMore, GL.toExL, comma, List.append_assoc] using this

theorem lem_inlist (neg : Option String) (inLit : String) (e first : G) (rest : GL)
    (hpl : plainLit inLit = true) (hneg : neg = none ∨ isWord inLit "IN" = true)
    (ihe : Lem e) (ihf : Lem first) (ihr : LemL rest) : Lem (G.inlist neg inLit e first rest) := by
  refine lem_of_native (p := 4) rfl fun d X hd hp hn => ?_
  simp only [need, Nat.lt_irrefl, if_false] at hd
  obtain ⟨hde, hdi⟩ := max_le_of hd
  have hitems := items (fun _ => evL_pInList_last) (fun _ => evL_pInList_cons) rest first ihf ihr d X hdi
  have hin := ev_pIn (neg := neg.isSome) (l := e.toEx) (plit := "(") (render_headNot (.inl rfl) 1 first _) hitems
  have := pred_native ihe (kw := ⟨.in_, inLit⟩) (by simp) (hneg.imp_right fun h => by simp [notLookahead, h]) hde (ev_pPred_in hpl hin)
  simpa [render, G.toEx, GL.toExL, lp, List.append_assoc] using this

theorem lem_call (n : String) (args : GL) (hn : isWord n "MATCH" = false) (ih : LemL args) : Lem (G.call n args) := by
  refine lem_of_native (p := 8) rfl fun d X hd hp => ?_
  cases args with
  | nil =>
    have := ev_pPrim_call0 (d := d) (n := n) (l1 := "(") (l2 := ")") (X := X)
    rw [afterCall_ok hn hp] at this
    exact this
  | cons g rest =>
    have hitems := items evL_pArgs_last evL_pArgs_cons rest g ih.1 ih.2 d X hd
    have := ev_pPrim_call (n := n) (l1 := "(") (render_headNot (.inr rfl) 1 g _) hitems
    rw [afterCall_ok hn hp] at this
    simpa [render, renderArgs, G.toEx, GL.toExL, lp, List.append_assoc] using this

mutual
theorem lem : (g : G) → g.WF = true → Lem g
  | .atom a, _ => lem_atom a
  | .call n args, h => by
    simp only [G.WF, Bool.and_eq_true, Bool.not_eq_true'] at h
    exact lem_call n args h.1 (lemL args h.2)
  | .bin op lit l r, h => by
    simp only [G.WF, Bool.and_eq_true] at h
    have ihl := lem l h.1.2
    have ihr := lem r h.2
    cases op with
    | star | div | mod => exact lem_mul (by simp) lit l r ihl ihr
    | plus | minus => exact lem_add (by simp) lit l r ihl ihr
    | cat => exact lem_cat lit l r ihl ihr
    | cmp => exact lem_cmp lit h.1.1 l r ihl ihr
    | and => exact lem_and lit h.1.1 l r ihl ihr
    | or => exact lem_or lit h.1.1 l r ihl ihr
  | .not lit e, h => by
    simp only [G.WF] at h
    exact lem_not lit e (lem e h)
  | .isnull isLit neg nullLit e, h => by
    simp only [G.WF, Bool.and_eq_true] at h
    exact lem_isnull isLit neg nullLit e h.1 (lem e h.2)
  | .between neg bLit andLit e lo hi, h => by
    simp only [G.WF, Bool.and_eq_true, Bool.or_eq_true, Option.isNone_iff_eq_none] at h
    exact lem_between neg bLit andLit e lo hi h.1.1.1.1 (lem e h.1.1.2) (lem lo h.1.2) (lem hi h.2)
  | .like neg op e pat, h => by
    simp only [G.WF, Bool.and_eq_true, Bool.or_eq_true, Option.isNone_iff_eq_none, beq_iff_eq] at h
    exact lem_like neg op e pat h.1.1.1 (by rcases h.1.1.2 with (h' | h') | h' <;> simp [h']) (lem e h.1.2) (lem pat h.2)
  | .inlist neg inLit e first rest, h => by
    simp only [G.WF, Bool.and_eq_true, Bool.or_eq_true, Option.isNone_iff_eq_none] at h
    exact lem_inlist neg inLit e first rest h.1.1.1.1 h.1.1.1.2 (lem e h.1.1.2) (lem first h.1.2) (lemL rest h.2)
theorem lemL : (l : GL) → l.WFL = true → LemL l
  | .nil, _ => trivial
  | .cons g rest, h => by
    simp only [GL.WFL, Bool.and_eq_true] at h
    exact ⟨lem g h.1, lemL rest h.2⟩
end

theorem parse_render_at (g : G) (hw : g.WF = true) (d : Nat) (X : List PTok) (hp : PrimStop X) (hn : N1 X)
    (hd : need 1 g + 1 + d ≤ maxDepth) : Ev (fun f => pExpr f d (render 1 g ++ X)) (.ok g.toEx X) :=
  expr_of_A1 (lem g hw).A1 d hp hn hd

/-- **C03 (expression ladder)**: every well-formed model expression, written with the parentheses precedence requires,
    parses back to itself — for every continuation that starts no operator and enough room under the depth limit -/
theorem parse_render (g : G) (hw : g.WF = true) (X : List PTok) (hp : PrimStop X) (hn : N1 X) (hd : need 1 g + 1 ≤ maxDepth) :
    ∃ f0, ∀ f, f0 ≤ f → pExpr f 0 (render 1 g ++ X) = .ok g.toEx X :=
  parse_render_at g hw 0 X hp hn hd

end GoSQLXModel.ExprParse
