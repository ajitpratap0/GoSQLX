import GoSQLXModel.Proofs.ExprProgress
/-!
# The expression ladder returns: fuel linear in the number of tokens always suffices

The model parser carries fuel so that Lean accepts the mutual recursion; `oof` (out of fuel) is the one answer that has
no counterpart in the real parser.  This file shows it is never the answer once the fuel is at least `10 · n + 9` for a
token list of length `n` (`10 · n + 8` for `pExpr`): on **every** token list every level of the ladder returns a tree,
an error or `unsupported`. With `Proofs/ExprProgress.lean` (each call consumes tokens) this is the termination of the
modelled `parseExpression`, with a bound on its recursion depth that is linear in the input.

The proof is an induction on the fuel, like `prog`.  A function needs `10 · n + rank` units on a list of length `n`:
the rank orders the functions as they call each other on the *same* token list, every other call being on a strictly
shorter list by the progress theorem, where ten units less cover any rank.
-/
namespace GoSQLXModel.ExprParse

theorem bindR_ne_oof {r : Res} {n : Nat} {k : Ex → List PTok → Res} (h : r ≠ .oof) (hlt : r.lt n)
    (hk : ∀ l rest, rest.length < n → k l rest ≠ .oof) : bindR r k ≠ .oof := by
  cases r with
  | ok l rest => exact hk l rest hlt
  | oof => exact h
  | _ => nofun

theorem afterPrimary_ne_oof (e : Ex) (rest : List PTok) : afterPrimary e rest ≠ .oof := by
  unfold afterPrimary
  split <;> nofun
theorem afterCall_ne_oof (nm : String) (args : ExL) (rest : List PTok) : afterCall nm args rest ≠ .oof := by
  unfold afterCall
  split
  · split
    · nofun
    · exact afterPrimary_ne_oof _ _
  · nofun

theorem toL_ne_oof {r : Res} (h : r ≠ .oof) (hok : ∀ e rest, r = .ok e rest → False) : r.toL ≠ .oof := by
  cases r with
  | ok e rest => exact (hok e rest rfl).elim
  | oof => exact (h rfl).elim
  | _ => nofun

/-- with fuel `f` no function answers `oof` on a list of length `n` with `10 n + rank ≤ f` -/
structure Fuelled (f : Nat) : Prop where
  prim : ∀ d ts, 10 * ts.length + 1 ≤ f → pPrim f d ts ≠ .oof
  mul : ∀ d ts, 10 * ts.length + 2 ≤ f → pMul f d ts ≠ .oof
  add : ∀ d ts, 10 * ts.length + 3 ≤ f → pAdd f d ts ≠ .oof
  cat : ∀ d ts, 10 * ts.length + 4 ≤ f → pCat f d ts ≠ .oof
  cmp : ∀ d ts, 10 * ts.length + 5 ≤ f → pCmp f d ts ≠ .oof
  and_ : ∀ d ts, 10 * ts.length + 6 ≤ f → pAnd f d ts ≠ .oof
  or_ : ∀ d ts, 10 * ts.length + 7 ≤ f → pOr f d ts ≠ .oof
  expr : ∀ d ts, 10 * ts.length + 8 ≤ f → pExpr f d ts ≠ .oof
  inList : ∀ d ts, 10 * ts.length + 9 ≤ f → pInList f d ts ≠ .oof
  args : ∀ d ts, 10 * ts.length + 9 ≤ f → pArgs f d ts ≠ .oof
  like : ∀ d neg op l ts, 10 * ts.length + 2 ≤ f → pLike f d neg op l ts ≠ .oof
  between : ∀ d neg l ts, 10 * ts.length + 5 ≤ f → pBetween f d neg l ts ≠ .oof
  in_ : ∀ d neg l ts, 10 * ts.length + 1 ≤ f → pIn f d neg l ts ≠ .oof
  pred : ∀ d neg l ts, 10 * ts.length + 1 ≤ f → pPred f d neg l ts ≠ .oof
  tail : ∀ d l ts, 10 * ts.length + 2 ≤ f → pTail f d l ts ≠ .oof
  mulStep : ∀ d l op ts, 10 * ts.length + 2 ≤ f → mulStep f d l op ts ≠ .oof
  lmul : ∀ d l ts, 10 * ts.length + 1 ≤ f → lMul f d l ts ≠ .oof
  ladd : ∀ d l ts, 10 * ts.length + 1 ≤ f → lAdd f d l ts ≠ .oof
  lcat : ∀ d l ts, 10 * ts.length + 1 ≤ f → lCat f d l ts ≠ .oof
  land : ∀ d l ts, 10 * ts.length + 1 ≤ f → lAnd f d l ts ≠ .oof
  lor : ∀ d l ts, 10 * ts.length + 1 ≤ f → lOr f d l ts ≠ .oof

theorem fuelled_zero : Fuelled 0 := by
  constructor <;> intros <;> contradiction

/-- the fuel left for a call on the same list, to a function of lower rank -/
theorem fuel_same {n r s f : Nat} (hf : 10 * n + r ≤ f + 1) (hs : s < r := by decide) : 10 * n + s ≤ f := by
  omega
/-- the fuel left for a call on a shorter list, to any function -/
theorem fuel_fewer {a n r s f : Nat} (ha : a < n) (hf : 10 * n + r ≤ f + 1) (hs : s ≤ 9 := by decide) : 10 * a + s ≤ f := by
  omega

theorem fuelled_succ (f : Nat) (ih : Fuelled f) : Fuelled (f + 1) where
  prim := fun d ts hf => by
    unfold pPrim
    split
    · split
      · exact afterCall_ne_oof _ _ _
      · have := ih.args d _ (fuel_fewer (Nat.lt_succ_of_lt (Nat.lt_succ_self _)) hf)
        split
        · exact afterCall_ne_oof _ _ _
        · nofun
        · nofun
        · contradiction
      · exact afterPrimary_ne_oof _ _
    · exact afterPrimary_ne_oof _ _
    · exact afterPrimary_ne_oof _ _
    · exact afterPrimary_ne_oof _ _
    · exact afterPrimary_ne_oof _ _
    · exact afterPrimary_ne_oof _ _
    · split
      · nofun
      · split
        · exact afterPrimary_ne_oof _ _
        · nofun
        · nofun
        · exact ih.expr d _ (fuel_fewer (Nat.lt_succ_self _) hf)
    · split
      · nofun
      · split
        · nofun
        · exact bindR_ne_oof (ih.cmp _ _ (fuel_fewer (Nat.lt_succ_self _) hf)) ((prog f).cmp _ _) fun _ _ _ => nofun
    · nofun
    · nofun
  mul := fun d ts hf => by
    rw [pMul]
    exact bindR_ne_oof (ih.prim d ts (fuel_same hf)) ((prog f).prim d ts) fun l rest hr => ih.lmul d l rest (fuel_fewer hr hf)
  add := fun d ts hf => by
    rw [pAdd]
    exact bindR_ne_oof (ih.mul d ts (fuel_same hf)) ((prog f).mul d ts) fun l rest hr => ih.ladd d l rest (fuel_fewer hr hf)
  cat := fun d ts hf => by
    rw [pCat]
    exact bindR_ne_oof (ih.add d ts (fuel_same hf)) ((prog f).add d ts) fun l rest hr => ih.lcat d l rest (fuel_fewer hr hf)
  cmp := fun d ts hf => by
    rw [pCmp]
    exact bindR_ne_oof (ih.cat d ts (fuel_same hf)) ((prog f).cat d ts) fun l rest hr => ih.tail d l rest (fuel_fewer hr hf)
  and_ := fun d ts hf => by
    rw [pAnd]
    exact bindR_ne_oof (ih.cmp d ts (fuel_same hf)) ((prog f).cmp d ts) fun l rest hr => ih.land d l rest (fuel_fewer hr hf)
  or_ := fun d ts hf => by
    rw [pOr]
    exact bindR_ne_oof (ih.and_ d ts (fuel_same hf)) ((prog f).and_ d ts) fun l rest hr => ih.lor d l rest (fuel_fewer hr hf)
  expr := fun d ts hf => by
    rw [pExpr]
    split
    · nofun
    · exact ih.or_ _ ts (fuel_same hf)
  inList := fun d ts hf => by
    rw [pInList]
    split
    next r h1 =>
      have := ih.inList d r (fuel_fewer (Nat.lt_of_succ_lt (((prog f).expr d ts).ok h1)) hf)
      split
      · nofun
      · exact this
    · nofun
    · nofun
    · nofun
    next hok _ => exact toL_ne_oof (ih.expr d ts (fuel_same hf)) hok
  args := fun d ts hf => by
    by_cases ho : ∃ lit tl, ts = ⟨.other, lit⟩ :: tl
    · obtain ⟨lit, tl, rfl⟩ := ho
      rw [pArgs_other]
      nofun
    rw [pArgs.eq_3 _ _ _ fun lit tl e => ho ⟨lit, tl, e⟩]
    split
    next r h1 =>
      have := ih.args d r (fuel_fewer (Nat.lt_of_succ_lt (((prog f).expr d ts).ok h1)) hf)
      split
      · nofun
      · exact this
    · nofun
    · split <;> nofun
    · nofun
    next hcons hnil =>
      exact toL_ne_oof (ih.expr d ts (fuel_same hf)) fun e rest h =>
        match rest with
        | [] => hnil e h
        | _ :: _ => hcons e _ _ h
  like := fun d neg op l ts hf => by
    rw [pLike]
    split
    · nofun
    · nofun
    · exact ih.prim d ts (fuel_same hf)
  between := fun d neg l ts hf => by
    rw [pBetween]
    split
    next r2 h1 =>
      have := ih.cat d r2 (fuel_fewer (Nat.lt_of_succ_lt (((prog f).cat d ts).ok h1)) hf)
      split
      · nofun
      · nofun
      · exact this
    · nofun
    · nofun
    · exact ih.cat d ts (fuel_same hf)
  in_ := fun d neg l ts hf => by
    unfold pIn
    split
    · nofun
    · have := ih.inList d _ (fuel_fewer (Nat.lt_succ_self _) hf)
      split
      · nofun
      · nofun
      · nofun
      · contradiction
    · nofun
  pred := fun d neg l ts hf => by
    cases ts with
    | nil =>
      rw [pPred]
      nofun
    | cons t r1 =>
      have hr {s : Nat} (hs : s ≤ 9 := by decide) : 10 * r1.length + s ≤ f := fuel_fewer (Nat.lt_succ_self _) hf hs
      exact pPred_cons (motive := fun F => F f ≠ .oof) d neg l t r1 (ih.between d neg l r1 hr) (fun op => ih.like d neg op l r1 hr)
        (ih.in_ d neg l r1 hr) (bindR_ne_oof (ih.cat d r1 hr) ((prog f).cat d r1) fun _ _ _ => nofun) fun _ h _ => h
  tail := fun d l ts hf => by
    rw [pTail]
    split
    · exact ih.pred d _ l ts.tail (by rw [List.length_tail]; omega)
    · exact ih.pred d _ l ts (fuel_same hf)
  mulStep := fun d l op ts hf => by
    unfold mulStep
    split
    · nofun
    · exact bindR_ne_oof (ih.prim d ts (fuel_same hf)) ((prog f).prim d ts) fun _ rest hr => ih.lmul d _ rest (fuel_fewer hr hf)
  lmul := fun d l ts hf => by
    unfold lMul
    split
    · exact ih.mulStep d l _ _ (fuel_fewer (Nat.lt_succ_self _) hf)
    · exact ih.mulStep d l _ _ (fuel_fewer (Nat.lt_succ_self _) hf)
    · exact ih.mulStep d l _ _ (fuel_fewer (Nat.lt_succ_self _) hf)
    · nofun
  ladd := fun d l ts hf => by
    unfold lAdd
    split
    · exact bindR_ne_oof (ih.mul d _ (fuel_fewer (Nat.lt_succ_self _) hf)) ((prog f).mul d _) fun _ rest hr =>
        ih.ladd d _ rest (fuel_fewer (Nat.lt_succ_of_lt hr) hf)
    · exact bindR_ne_oof (ih.mul d _ (fuel_fewer (Nat.lt_succ_self _) hf)) ((prog f).mul d _) fun _ rest hr =>
        ih.ladd d _ rest (fuel_fewer (Nat.lt_succ_of_lt hr) hf)
    · nofun
  lcat := fun d l ts hf => by
    unfold lCat
    split
    · exact bindR_ne_oof (ih.add d _ (fuel_fewer (Nat.lt_succ_self _) hf)) ((prog f).add d _) fun _ rest hr =>
        ih.lcat d _ rest (fuel_fewer (Nat.lt_succ_of_lt hr) hf)
    · nofun
  land := fun d l ts hf => by
    unfold lAnd
    split
    · exact bindR_ne_oof (ih.cmp d _ (fuel_fewer (Nat.lt_succ_self _) hf)) ((prog f).cmp d _) fun _ rest hr =>
        ih.land d _ rest (fuel_fewer (Nat.lt_succ_of_lt hr) hf)
    · nofun
  lor := fun d l ts hf => by
    unfold lOr
    split
    · exact bindR_ne_oof (ih.and_ d _ (fuel_fewer (Nat.lt_succ_self _) hf)) ((prog f).and_ d _) fun _ rest hr =>
        ih.lor d _ rest (fuel_fewer (Nat.lt_succ_of_lt hr) hf)
    · nofun

theorem fuelled : ∀ f, Fuelled f
  | 0 => fuelled_zero
  | f + 1 => fuelled_succ f (fuelled f)

/-- what is known at one length bound: with fuel at least `10 n + rank` no function answers `oof` -/
structure Tot (n : Nat) : Prop where
  prim : ∀ d ts f, ts.length ≤ n → 10 * n + 1 ≤ f → pPrim f d ts ≠ .oof
  mul : ∀ d ts f, ts.length ≤ n → 10 * n + 2 ≤ f → pMul f d ts ≠ .oof
  add : ∀ d ts f, ts.length ≤ n → 10 * n + 3 ≤ f → pAdd f d ts ≠ .oof
  cat : ∀ d ts f, ts.length ≤ n → 10 * n + 4 ≤ f → pCat f d ts ≠ .oof
  cmp : ∀ d ts f, ts.length ≤ n → 10 * n + 5 ≤ f → pCmp f d ts ≠ .oof
  and_ : ∀ d ts f, ts.length ≤ n → 10 * n + 6 ≤ f → pAnd f d ts ≠ .oof
  or_ : ∀ d ts f, ts.length ≤ n → 10 * n + 7 ≤ f → pOr f d ts ≠ .oof
  expr : ∀ d ts f, ts.length ≤ n → 10 * n + 8 ≤ f → pExpr f d ts ≠ .oof
  inList : ∀ d ts f, ts.length ≤ n → 10 * n + 9 ≤ f → pInList f d ts ≠ .oof
  args : ∀ d ts f, ts.length ≤ n → 10 * n + 9 ≤ f → pArgs f d ts ≠ .oof
  like : ∀ d neg op l ts f, ts.length ≤ n → 10 * n + 2 ≤ f → pLike f d neg op l ts ≠ .oof
  between : ∀ d neg l ts f, ts.length ≤ n → 10 * n + 5 ≤ f → pBetween f d neg l ts ≠ .oof
  in_ : ∀ d neg l ts f, ts.length ≤ n → 10 * n + 1 ≤ f → pIn f d neg l ts ≠ .oof
  pred : ∀ d neg l ts f, ts.length ≤ n → 10 * n + 1 ≤ f → pPred f d neg l ts ≠ .oof
  tail : ∀ d l ts f, ts.length ≤ n → 10 * n + 2 ≤ f → pTail f d l ts ≠ .oof
  mulStep : ∀ d l op ts f, ts.length ≤ n → 10 * n + 2 ≤ f → mulStep f d l op ts ≠ .oof
  lmul : ∀ d l ts f, ts.length ≤ n → 10 * n + 1 ≤ f → lMul f d l ts ≠ .oof
  ladd : ∀ d l ts f, ts.length ≤ n → 10 * n + 1 ≤ f → lAdd f d l ts ≠ .oof
  lcat : ∀ d l ts f, ts.length ≤ n → 10 * n + 1 ≤ f → lCat f d l ts ≠ .oof
  land : ∀ d l ts f, ts.length ≤ n → 10 * n + 1 ≤ f → lAnd f d l ts ≠ .oof
  lor : ∀ d l ts f, ts.length ≤ n → 10 * n + 1 ≤ f → lOr f d l ts ≠ .oof

theorem shorter {n : Nat} (hm : ∀ m, m < n → Tot m) {k : Nat} (hk : k < n) : Tot (n - 1) ∧ k ≤ n - 1 ∧ 10 * (n - 1) + 10 ≤ 10 * n :=
  ⟨hm (n - 1) (by omega), by omega, by omega⟩

theorem need_le {a n r f : Nat} (hl : a ≤ n) (hf : 10 * n + r ≤ f) : 10 * a + r ≤ f := by
  omega

theorem tot (n : Nat) : Tot n where
  prim := fun d ts f hl hf => (fuelled f).prim d ts (need_le hl hf)
  mul := fun d ts f hl hf => (fuelled f).mul d ts (need_le hl hf)
  add := fun d ts f hl hf => (fuelled f).add d ts (need_le hl hf)
  cat := fun d ts f hl hf => (fuelled f).cat d ts (need_le hl hf)
  cmp := fun d ts f hl hf => (fuelled f).cmp d ts (need_le hl hf)
  and_ := fun d ts f hl hf => (fuelled f).and_ d ts (need_le hl hf)
  or_ := fun d ts f hl hf => (fuelled f).or_ d ts (need_le hl hf)
  expr := fun d ts f hl hf => (fuelled f).expr d ts (need_le hl hf)
  inList := fun d ts f hl hf => (fuelled f).inList d ts (need_le hl hf)
  args := fun d ts f hl hf => (fuelled f).args d ts (need_le hl hf)
  like := fun d neg op l ts f hl hf => (fuelled f).like d neg op l ts (need_le hl hf)
  between := fun d neg l ts f hl hf => (fuelled f).between d neg l ts (need_le hl hf)
  in_ := fun d neg l ts f hl hf => (fuelled f).in_ d neg l ts (need_le hl hf)
  pred := fun d neg l ts f hl hf => (fuelled f).pred d neg l ts (need_le hl hf)
  tail := fun d l ts f hl hf => (fuelled f).tail d l ts (need_le hl hf)
  mulStep := fun d l op ts f hl hf => (fuelled f).mulStep d l op ts (need_le hl hf)
  lmul := fun d l ts f hl hf => (fuelled f).lmul d l ts (need_le hl hf)
  ladd := fun d l ts f hl hf => (fuelled f).ladd d l ts (need_le hl hf)
  lcat := fun d l ts f hl hf => (fuelled f).lcat d l ts (need_le hl hf)
  land := fun d l ts f hl hf => (fuelled f).land d l ts (need_le hl hf)
  lor := fun d l ts f hl hf => (fuelled f).lor d l ts (need_le hl hf)

/-- **the expression ladder returns**: with fuel `10 · |ts| + 8` (or more) `parseExpression` answers a tree, an error or
    `unsupported` on every token list, at every depth -/
theorem pExpr_returns (d : Nat) (ts : List PTok) (f : Nat) (hf : 10 * ts.length + 8 ≤ f) : pExpr f d ts ≠ .oof :=
  (fuelled f).expr d ts hf

end GoSQLXModel.ExprParse
