import GoSQLXModel.Model.Fs
/-!
# Several files rewritten in place, one after the other, with a crash anywhere

With the frame rule and the split rule for concatenated processes (`crash_frame`, `mem_crashStates_append`, Model/Fs.lean)
the single-file theorem lifts to a run over any number of files (`multi_replace_safe`): whatever the crash point —
between files, between operations, after any number of bytes of any write — *every* file named on the command line
holds its complete old or its complete new content, provided the targets are distinct paths and no temporary name is a
target; and every path that is neither a target nor a temporary file is untouched (`multi_replace_frame`).
-/
namespace GoSQLXModel.Fs

structure Job where
  target : String
  tmp : String
  new : Bytes

def jobsOps (js : List Job) : List Op := js.flatMap fun j => atomicReplace j.target j.tmp j.new

theorem atomicReplace_touches (t tmp : String) (new : Bytes) (q : String) (h1 : q ≠ t) (h2 : q ≠ tmp) :
    ∀ op ∈ atomicReplace t tmp new, q ∉ touches op := by
  intro op hop
  simp only [atomicReplace, List.mem_cons, List.not_mem_nil, or_false] at hop
  rcases hop with rfl | rfl | rfl | rfl | rfl | rfl <;> simp [touches, h1, h2]

theorem jobsOps_touches (js : List Job) (q : String) (h : ∀ j ∈ js, q ≠ j.target ∧ q ≠ j.tmp) :
    ∀ op ∈ jobsOps js, q ∉ touches op := by
  intro op hop
  obtain ⟨j, hj, hop⟩ := List.mem_flatMap.1 hop
  exact atomicReplace_touches j.target j.tmp j.new q (h j hj).1 (h j hj).2 op hop

/-- a path that is neither a target nor a temporary file is untouched whatever the crash point -/
theorem multi_replace_frame (js : List Job) (d : Disk) (q : String) (h : ∀ j ∈ js, q ≠ j.target ∧ q ≠ j.tmp) :
    ∀ s ∈ crashStates d (jobsOps js), s q = d q :=
  crash_frame q _ d (jobsOps_touches js q h)

/-- **every file holds its complete old or complete new content, whatever the crash point of the whole run** -/
theorem multi_replace_safe : ∀ (js : List Job) (d : Disk),
    (js.map (·.target)).Nodup → (∀ j ∈ js, ∀ j' ∈ js, j.tmp ≠ j'.target) →
    ∀ s ∈ crashStates d (jobsOps js), ∀ j ∈ js, s j.target = d j.target ∨ s j.target = some j.new
  | [], _, _, _, _, _, j, hj => nomatch hj
  | j0 :: js, d, hnd, htmp, s, hs, j, hj => by
    obtain ⟨hnd0, hnd'⟩ := List.nodup_cons.1 hnd
    have hnot : ∀ j' ∈ js, j'.target ≠ j0.target := fun j' hj' he => hnd0 (List.mem_map.2 ⟨j', hj', he⟩)
    simp only [List.forall_mem_cons] at htmp
    obtain ⟨⟨h00, h0⟩, htmp'⟩ := htmp
    -- paths of later jobs are not named by the first job's operations
    have hA : ∀ j' ∈ js, ∀ op ∈ atomicReplace j0.target j0.tmp j0.new, j'.target ∉ touches op := fun j' hj' =>
      atomicReplace_touches _ _ _ _ (hnot j' hj') (Ne.symm (h0 j' hj'))
    -- the first job's target is not named by later operations
    have hR : ∀ op ∈ jobsOps js, j0.target ∉ touches op :=
      jobsOps_touches js _ fun j' hj' => ⟨(hnot j' hj').symm, ((htmp' j' hj').1).symm⟩
    rcases mem_crashStates_append _ s _ d (show s ∈ crashStates d (atomicReplace _ _ _ ++ jobsOps js) from hs)
      with h1 | h1
    · rcases List.mem_cons.1 hj with rfl | hj'
      · exact atomic_replace_safe d _ _ _ h00 s h1
      · exact .inl (crash_frame _ _ d (hA j hj') s h1)
    · rcases List.mem_cons.1 hj with rfl | hj'
      · exact .inr ((crash_frame _ _ _ hR s h1).trans (atomic_replace_done d _ _ _ h00).1)
      · have := multi_replace_safe js _ hnd' (fun a ha => (htmp' a ha).2) s h1 j hj'
        rwa [run_frame _ _ d (hA j hj')] at this

end GoSQLXModel.Fs
