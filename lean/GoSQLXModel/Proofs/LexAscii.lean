import GoSQLXModel.Proofs.LexGrammar
/-!
# ASCII bytes in front of the tokenizer

The reference grammar speaks about ASCII text, the tokenizer about runes.  A byte below 0x80 is its own rune, so
`nextToken` dispatches on the byte itself (`nextToken_ascii`), and the byte classes of the grammar are classes of the
classifier (`AsciiOK`).
-/
namespace GoSQLXModel.Lex

theorem decodeRune_ascii (b : UInt8) (tl : Bytes) (h : b.toNat < 128) : decodeRune (b :: tl) = (b.toNat, 1) :=
  if_pos h

theorem nextRune_ascii (b : UInt8) (tl : Bytes) (h : b.toNat < 128) : nextRune (b :: tl) = some (b.toNat, tl) := by
  simp [nextRune, decodeRune_ascii b tl h]

theorem normalizeQuote_ascii (n : Nat) (h : n < 128) : normalizeQuote n = n := by
  unfold normalizeQuote
  rw [if_neg (by simp only [Bool.or_eq_true, beq_iff_eq]; omega), if_neg (by simp only [Bool.or_eq_true, beq_iff_eq]; omega)]

theorem encodeRune_ascii (b : UInt8) (h : b.toNat < 128) : encodeRune b.toNat = [b] := by
  simp [encodeRune, h, show ¬ (b.toNat > 0x10FFFF) by omega, show ¬ (0xD800 ≤ b.toNat) by omega]

theorem consumed_append (a b : Bytes) : consumed (a ++ b) b = a := by
  simp [consumed]

theorem consumed_nil (bs : Bytes) : consumed bs [] = bs := by simp [consumed]

theorem consumed_cons (c : UInt8) (cs R : Bytes) : consumed (c :: (cs ++ R)) R = c :: cs :=
  consumed_append (c :: cs) R

theorem isWS_cases {b : UInt8} (h : isWS b = true) : b = 32 ∨ b = 9 ∨ b = 13 ∨ b = 10 := by
  simpa only [isWS, Bool.or_eq_true, beq_iff_eq, or_assoc] using h

theorem ws_lt (s : UInt8) (h : isWS s = true) : s.toNat < 128 := by
  rcases isWS_cases h with rfl | rfl | rfl | rfl <;> decide

-- byte classes are ranges of `toNat`: the next two unfold to arithmetic and let `omega` decide
theorem wordChar_lt (b : UInt8) (h : isWordCharB b = true) : b.toNat < 128 := by
  simp only [isWordCharB, isLetterB, isDigitB, Bool.or_eq_true, Bool.and_eq_true, decide_eq_true_eq, beq_iff_eq,
    ← UInt8.toNat_inj, UInt8.toNat_ofNat] at h
  omega

theorem digit_lt (b : UInt8) (h : isDigitB b = true) : b.toNat < 128 := by
  simp only [isDigitB, Bool.and_eq_true, decide_eq_true_eq] at h; omega

theorem wordChar_ident (cls : CharClass) (hA : AsciiOK cls) (x : UInt8) (h : isWordCharB x = true) :
    isIdentChar cls x.toNat = true := by
  simp only [isWordCharB, Bool.or_eq_true, beq_iff_eq] at h
  rcases h with (h | h) | h
  · simp [isIdentChar, hA.letter x h]
  · simp [isIdentChar, hA.digit x h]
  · subst h; simp [isIdentChar]

theorem wordStart_identStart (cls : CharClass) (hA : AsciiOK cls) (x : UInt8) (h : isWordStartB x = true) :
    isIdentStart cls x.toNat = true := by
  simp only [isWordStartB, Bool.or_eq_true, beq_iff_eq] at h
  rcases h with h | h
  · simp [isIdentStart, isLetterR, hA.letter x h]
  · subst h; simp [isIdentStart]

theorem wordStart_char (x : UInt8) (h : isWordStartB x = true) : isWordCharB x = true := by
  simp only [isWordStartB, isWordCharB, Bool.or_eq_true] at h ⊢
  exact h.elim (fun h => .inl (.inl h)) .inr

section
variable {cls : CharClass} {tb : Tables} {inp : Bytes}

theorem isDigitR_toNat (b : UInt8) : isDigitR b.toNat = isDigitB b := rfl

theorem toNat_beq (b k : UInt8) : (b.toNat == k.toNat) = (b == k) := by
  rw [Bool.eq_iff_iff]; simp [← UInt8.toNat_inj]

theorem toNat_ne {b k : UInt8} (h : b ≠ k) : (b.toNat == k.toNat) = false := by rw [toNat_beq]; simpa using h

/-- the first byte of a word, a number or `( ) , ;` is no blank and opens no comment -/
theorem lexemeHead {b : UInt8} (h : (isWordStartB b || isDigitB b || isPunctB b) = true) : isWS b = false ∧ b ≠ 45 ∧ b ≠ 47 := by
  simp only [isWordStartB, isLetterB, isDigitB, isPunctB, isWS, Bool.or_eq_true, Bool.and_eq_true, decide_eq_true_eq,
    beq_iff_eq, Bool.or_eq_false_iff, beq_eq_false_iff_ne, ne_eq, ← UInt8.toNat_inj, UInt8.toNat_ofNat] at h ⊢
  omega

theorem nextToken_ascii (cls : CharClass) (tb : Tables) (inp : Bytes) (b : UInt8) (tl : Bytes) (h : b.toNat < 128) :
    nextToken cls tb inp (b :: tl) =
      if isIdentStart cls b.toNat then .ok (readIdentifier cls tb (b :: tl))
      else if isDigitB b then readNumber tb inp (b :: tl)
      else if b == 34 then readQuotedIdentifier tb inp (b :: tl)
      else if b == 96 then readBacktick tb inp (b :: tl)
      else if b == 39 then readQuotedString tb inp (b :: tl)
      else readPunctuation cls tb inp (b :: tl) := by
  have big : ∀ k, 128 ≤ k → (b.toNat == k) = false := fun k hk => by simp; omega
  simp only [nextToken, decodeRune_ascii b tl h, isStringQuoteStart, ← toNat_beq b 34, ← toNat_beq b 96,
    ← toNat_beq b 39, big 8220 (by decide), big 8221 (by decide), big 8216 (by decide), big 8217 (by decide),
    big 171 (by decide), big 187 (by decide), Bool.or_false]
  rfl

theorem digit_not_identStart (hA : AsciiOK cls) {d : UInt8} (hd : isDigitB d = true) : isIdentStart cls d.toNat = false := by
  have h95 : (d.toNat == 95) = false := by
    simp only [isDigitB, Bool.and_eq_true, decide_eq_true_eq] at hd
    simp; omega
  simp [isIdentStart, isLetterR, hA.digitNotLetter d hd, h95]

theorem nextToken_dquote (h : isIdentStart cls 34 = false) (tl : Bytes) :
    nextToken cls tb inp (34 :: tl) = readQuotedIdentifier tb inp (34 :: tl) := by
  rw [nextToken_ascii cls tb inp 34 tl (by decide)]; simp [h, isDigitB]

theorem nextToken_backtick (h : isIdentStart cls 96 = false) (tl : Bytes) :
    nextToken cls tb inp (96 :: tl) = readBacktick tb inp (96 :: tl) := by
  rw [nextToken_ascii cls tb inp 96 tl (by decide)]; simp [h, isDigitB]

theorem nextToken_squote (h : isIdentStart cls 39 = false) (tl : Bytes) :
    nextToken cls tb inp (39 :: tl) = readQuotedString tb inp (39 :: tl) := by
  rw [nextToken_ascii cls tb inp 39 tl (by decide)]; simp [h, isDigitB]

end

/-- `AsciiOK` as a computation over the 256 byte values -/
def asciiOKb (cls : CharClass) : Bool :=
  (List.range 256).all fun n =>
    let b := UInt8.ofNat n
    (!isLetterB b || cls.isLetter (Char.ofNat b.toNat)) &&
    (!isDigitB b || (cls.isDigit (Char.ofNat b.toNat) && !cls.isLetter (Char.ofNat b.toNat))) &&
    (!isWS b || !isIdentChar cls b.toNat) &&
    (!isPunctB b || !isIdentStart cls b.toNat)

theorem asciiOK_of_bool (cls : CharClass) (h : asciiOKb cls = true) : AsciiOK cls := by
  -- the entry of the sweep for `b` itself
  have all (b : UInt8) := List.all_eq_true.1 h b.toNat (List.mem_range.2 b.toNat_lt)
  simp only [UInt8.ofNat_toNat, Bool.and_eq_true, Bool.or_eq_true, Bool.not_eq_true'] at all
  exact {
    letter := fun b hb => (all b).1.1.1.resolve_left (by simp [hb])
    digit := fun b hb => ((all b).1.1.2.resolve_left (by simp [hb])).1
    digitNotLetter := fun b hb => ((all b).1.1.2.resolve_left (by simp [hb])).2
    blank := fun b hb => (all b).1.2.resolve_left (by simp [hb])
    punct := fun b hb => (all b).2.resolve_left (by simp [hb]) }

end GoSQLXModel.Lex
