import GoSQLXModel.Proofs.LexRun
/-!
# Exactly one end-of-input marker
-/
namespace GoSQLXModel.Lex

/-- well-formedness of the tables: no table entry and no fixed token type is the EOF type (0), and the three
    `@` operators are present (evaluated for the regenerated tables in Props/C04): `readPunctuation` looks `@`, `@>`, `@@`
    up with `.getD 0`, so an absent one would be given the end marker's type -/
structure TablesOK (tb : Tables) : Prop where
  kw : ∀ e ∈ tb.keywords, e.2 ≠ 0
  ct : ∀ e ∈ tb.compoundTypes, e.2 ≠ 0
  op : ∀ e ∈ tb.operators, e.2 ≠ 0
  ident : tb.ttIdentifier ≠ 0
  num : tb.ttNumber ≠ 0
  ph : tb.ttPlaceholder ≠ 0
  sq : tb.ttSingle ≠ 0
  dq : tb.ttDouble ≠ 0
  st : tb.ttString ≠ 0
  ts : tb.ttTripleSingle ≠ 0
  td : tb.ttTripleDouble ≠ 0
  dl : tb.ttDollar ≠ 0
  at1 : (lookup tb.operators [64]).isSome
  at2 : (lookup tb.operators [64, 62]).isSome
  at3 : (lookup tb.operators [64, 64]).isSome

theorem lookup_mem {tbl : List (Bytes × Nat)} {k : Bytes} {v : Nat} (h : lookup tbl k = some v) :
    ∃ e ∈ tbl, e.2 = v := by
  unfold lookup at h
  cases hf : tbl.find? (·.1 == k) with
  | none => simp [hf] at h
  | some e =>
    simp only [hf, Option.map_some, Option.some.injEq] at h
    exact ⟨e, List.mem_of_find?_eq_some hf, h⟩

/-- a looked-up type is not the end marker's when the default is not, or is not needed -/
theorem lookup_getD_ne_zero {tbl : List (Bytes × Nat)} (hall : ∀ e ∈ tbl, e.2 ≠ 0) (k : Bytes) {d : Nat}
    (hd : (lookup tbl k).isSome ∨ d ≠ 0) : (lookup tbl k).getD d ≠ 0 := by
  cases h : lookup tbl k with
  | none => simpa [h] using hd
  | some v => obtain ⟨e, he, rfl⟩ := lookup_mem h; exact hall e he

/-! no reader produces the end marker's type: in every branch that returns a token, its type is one of the table's -/
variable {cls : CharClass} {tb : Tables} {inp bs : Bytes} {p : Tok × Bytes}

theorem readIdentifier_ty (ok : TablesOK tb) : (readIdentifier cls tb bs).1.ty ≠ 0 := by
  fun_cases readIdentifier cls tb bs
  case case1 => exact ok.ident
  case case3 hc => obtain ⟨e, he, rfl⟩ := lookup_mem hc; exact ok.ct e he
  all_goals exact lookup_getD_ne_zero ok.kw _ (.inr ok.ident)

theorem readNumber_ty (ok : TablesOK tb) (h : readNumber tb inp bs = .ok p) : p.1.ty ≠ 0 := by
  revert h; fun_cases readNumber tb inp bs <;> intro h <;> cases h <;> exact ok.num

theorem readQuotedIdentifier_ty (ok : TablesOK tb) (h : readQuotedIdentifier tb inp bs = .ok p) : p.1.ty ≠ 0 := by
  revert h; fun_cases readQuotedIdentifier tb inp bs <;> intro h <;> cases h; exact ok.dq

theorem readBacktick_ty (ok : TablesOK tb) (h : readBacktick tb inp bs = .ok p) : p.1.ty ≠ 0 := by
  revert h; fun_cases readBacktick tb inp bs <;> intro h <;> cases h; exact ok.ident

theorem ite_ne_zero {c : Prop} [Decidable c] {a b : Nat} (ha : a ≠ 0) (hb : b ≠ 0) : (if c then a else b) ≠ 0 := by
  split <;> assumption

theorem readQuotedString_ty (ok : TablesOK tb) (h : readQuotedString tb inp bs = .ok p) : p.1.ty ≠ 0 := by
  revert h; fun_cases readQuotedString tb inp bs <;> intro h <;> cases h
  · exact ite_ne_zero ok.ts ok.td
  · exact ite_ne_zero ok.sq (ite_ne_zero ok.dq ok.st)

theorem readDollar_ty (ok : TablesOK tb) (h : readDollar cls tb inp bs = .ok p) : p.1.ty ≠ 0 := by
  revert h; fun_cases readDollar cls tb inp bs <;> intro h <;> cases h
  case case5 => exact ok.dl
  all_goals exact ok.ph

theorem readPunctuation_ty (ok : TablesOK tb) (h : readPunctuation cls tb inp bs = .ok p) : p.1.ty ≠ 0 := by
  revert h; fun_cases readPunctuation cls tb inp bs <;> intro h
  case case1 => cases h
  case case2 => exact readDollar_ty ok h
  case case3 => cases h; exact lookup_getD_ne_zero ok.op _ (.inl ok.at2)
  case case4 => cases h; exact lookup_getD_ne_zero ok.op _ (.inl ok.at3)
  case case5 => cases h; exact ok.ph
  case case6 | case7 => cases h; exact lookup_getD_ne_zero ok.op _ (.inl ok.at1)
  case case8 ho => rw [ho] at h; cases h; exact ok.op _ (longestOp_some ho).1
  case case9 ho => rw [ho] at h; cases h

theorem nextToken_ty (cls : CharClass) (tb : Tables) (ok : TablesOK tb) (inp : Bytes) {bs : Bytes} {t : Tok} {rest : Bytes}
    (h : nextToken cls tb inp bs = .ok (t, rest)) : t.ty ≠ 0 := by
  revert h; fun_cases nextToken cls tb inp bs <;> intro h
  · have := readIdentifier_ty (cls := cls) (bs := bs) ok
    rwa [Except.ok.inj h] at this
  · exact readNumber_ty ok h
  · exact readQuotedIdentifier_ty ok h
  · exact readBacktick_ty ok h
  · exact readQuotedString_ty ok h
  · exact readPunctuation_ty ok h

theorem Run.ty_ne_zero {rest cs ts r' cs'} (ok : TablesOK tb) (h : Run cls tb inp rest cs ts r' cs') : ∀ t ∈ ts, t.ty ≠ 0 := by
  induction h with
  | stop => simp
  | tok _ _ hn _ ih => simpa using ⟨nextToken_ty cls tb ok inp hn, ih⟩

/-- **C04 (end marker)**: the token list of every accepted input is its tokens followed by exactly one EOF -/
theorem tokenize_single_eof (cls : CharClass) (tb : Tables) (ok : TablesOK tb) (inp : Bytes) (toks : List Tok)
    (cms : List Comment) (h : tokenize cls tb inp = .ok toks cms) :
    ∃ body, toks = body ++ [{ ty := 0, value := [], startOff := inp.length, endOff := inp.length }] ∧
      ∀ t ∈ body, t.ty ≠ 0 := by
  obtain ⟨ts, hrun, rfl, _⟩ := run_of_tokenize_ok h
  exact ⟨ts, rfl, hrun.ty_ne_zero ok⟩

end GoSQLXModel.Lex
