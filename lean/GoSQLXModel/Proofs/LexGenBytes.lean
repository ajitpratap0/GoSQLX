import GoSQLXModel.Model.LexGen
/-!
# `strBytes` is the string's own UTF-8

`strBytes` goes through the model's `encodeRune` (Go's `AppendRune`), character by character.  That is the same
arithmetic as Lean's own encoder (`encodeRune_char`), hence `strBytes s` is the byte array the string carries.  The kernel
gets at that array far more cheaply than at `String.toList` (which it decodes from it), so the table obligations and test
vectors of `Props/*.lean` evaluate `genLexTables` in the form `genLexTablesU`.
-/
namespace GoSQLXModel.Lex

theorem encodeRune_char (c : Char) : encodeRune c.toNat = String.utf8EncodeChar c := by
  have hv : c.val.toNat < 0xd800 ∨ (0xdfff < c.val.toNat ∧ c.val.toNat < 0x110000) := c.valid
  unfold String.utf8EncodeChar encodeRune Char.toNat
  generalize c.val.toNat = v at hv
  have h1 : (decide (v > 0x10FFFF) || (decide (0xD800 ≤ v) && decide (v ≤ 0xDFFF))) = false := by
    simp only [Bool.or_eq_false_iff, Bool.and_eq_false_iff, decide_eq_false_iff_not]; omega
  simp only [h1, Bool.false_eq_true, if_false]
  -- Go adds the marker bits to the quotient, Lean takes the quotient modulo the field width first: equal in each range
  obtain h | h | h | h : v ≤ 0x7f ∨ (0x7f < v ∧ v ≤ 0x7ff) ∨ (0x7ff < v ∧ v ≤ 0xffff) ∨ 0xffff < v := by omega
  · rw [if_pos (by omega), if_pos h]
  · rw [if_neg (by omega), if_pos (by omega), if_neg (by omega), if_pos h.2,
      show 0xC0 + v / 64 = v / 64 % 0x20 + 0xc0 by omega, Nat.add_comm 0x80]
  · rw [if_neg (by omega), if_neg (by omega), if_pos (by omega), if_neg (by omega), if_neg (by omega), if_pos h.2,
      show 0xE0 + v / 4096 = v / 4096 % 0x10 + 0xe0 by omega, Nat.add_comm 0x80, Nat.add_comm 0x80]
  · rw [if_neg (by omega), if_neg (by omega), if_neg (by omega), if_neg (by omega), if_neg (by omega), if_neg (by omega),
      show 0xF0 + v / 262144 = v / 262144 % 0x08 + 0xf0 by omega, Nat.add_comm 0x80, Nat.add_comm 0x80, Nat.add_comm 0x80]

theorem strBytes_eq (s : String) : strBytes s = s.toByteArray.data.toList := by
  conv => rhs; rw [← String.ofList_toList (s := s), String.toByteArray_ofList]
  simp only [strBytes, List.utf8Encode, List.toList_data_toByteArray, encodeRune_char]

def genLexTablesU : Tables :=
  { genLexTables with
    keywords := Gen.Lex.keywordTypes.map fun e => (e.1.toByteArray.data.toList, e.2)
    compoundStarts := Gen.Lex.compoundStarts.map (·.toByteArray.data.toList)
    compoundTypes := Gen.Lex.compoundTypes.map fun e => (e.1.toByteArray.data.toList, e.2)
    operators := Gen.Lex.operators.map fun e => (e.1.toByteArray.data.toList, e.2) }

theorem genLexTables_eq : genLexTables = genLexTablesU := by
  simp only [genLexTables, genLexTablesU, funext strBytes_eq]

end GoSQLXModel.Lex
