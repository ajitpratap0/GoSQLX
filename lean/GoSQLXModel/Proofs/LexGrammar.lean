import GoSQLXModel.Model.Lex
/-!
# The reference lexical grammar: definitions

The texts the theorems of `Proofs/LexSpell2.lean` speak about, as data with decidable side conditions (so that concrete
inputs can be decided and the driver can report coverage):

* **separators** are lists of pieces — a blank run, a line comment `-- … \n`, a block comment `/* … */` — and may be
  *empty*; every comment is captured, in order, with its exact text and kind;
* **lexemes**: ASCII words, two-word keywords, unsigned integers, numbers with fraction and exponent, every operator of
  the operator table, multi-byte ones included, that does not start with `$` or `@` (`opHeadOK`: those go through the
  tokenizer's placeholder and dollar-quote branch), single-quoted string literals built from plain bytes, doubled quotes and
  the seven backslash escapes (the token's value is the decoded text), double-quoted identifiers with doubled quotes,
  backtick identifiers;
* the only side condition on a junction is local (`Lx.follow`): the first byte after a lexeme must not be one that would
  extend it (an identifier character after a word, a digit / `.` / `e` after an integer, a byte that makes a longer
  operator, a quote after a closing quote), and the lexeme must not, together with that byte, look like the opening of a
  comment (`stopB`).

The hypothesis on the classifier, `AsciiOK` (ASCII letters are letters, ASCII digits digits, blanks and `( ) , ;` are
neither), is a decidable fact discharged for the dumped Go classifier in Props/C04.
-/
namespace GoSQLXModel.Lex

def isLetterB (b : UInt8) : Bool := (65 ≤ b.toNat && b.toNat ≤ 90) || (97 ≤ b.toNat && b.toNat ≤ 122)
def isDigitB (b : UInt8) : Bool := 48 ≤ b.toNat && b.toNat ≤ 57
def isWordStartB (b : UInt8) : Bool := isLetterB b || b == 95
def isWordCharB (b : UInt8) : Bool := isLetterB b || isDigitB b || b == 95
def isPunctB (b : UInt8) : Bool := b == 40 || b == 41 || b == 44 || b == 59

structure AsciiOK (cls : CharClass) : Prop where
  letter : ∀ b : UInt8, isLetterB b = true → cls.isLetter (Char.ofNat b.toNat) = true
  digit : ∀ b : UInt8, isDigitB b = true → cls.isDigit (Char.ofNat b.toNat) = true
  digitNotLetter : ∀ b : UInt8, isDigitB b = true → cls.isLetter (Char.ofNat b.toNat) = false
  blank : ∀ b : UInt8, isWS b = true → isIdentChar cls b.toNat = false
  punct : ∀ b : UInt8, isPunctB b = true → isIdentStart cls b.toNat = false

def Tok.key (t : Tok) : Nat × Bytes := (t.ty, t.value)
def Tok.span (t : Tok) : Nat × Nat := (t.startOff, t.endOff)
def Comment.key (c : Comment) : Bytes × Bool := (c.text, c.block)
def Comment.span (c : Comment) : Nat × Nat := (c.startOff, c.endOff)

inductive Piece where
  | blanks (ws : Bytes)
  | line (body : Bytes)      -- `--` body newline
  | block (body : Bytes)     -- `/*` body `*/`
  deriving Repr

/-- does `*/` occur in the body? -/
def hasClose : Bytes → Bool
  | a :: b :: t => (a == 42 && b == 47) || hasClose (b :: t)
  | _ => false

def Piece.bytes : Piece → Bytes
  | .blanks ws => ws
  | .line body => 45 :: 45 :: (body ++ [10])
  | .block body => 47 :: 42 :: (body ++ [42, 47])

def Piece.ok : Piece → Bool
  | .blanks ws => ws.all isWS
  | .line body => body.all (· != 10)
  | .block body => !hasClose body

/-- the comment a piece must be captured as: exact text, block flag -/
def Piece.comments : Piece → List (Bytes × Bool)
  | .blanks _ => []
  | .line body => [(45 :: 45 :: body, false)]
  | .block body => [(47 :: 42 :: (body ++ [42, 47]), true)]

def sepBytes : List Piece → Bytes
  | [] => []
  | p :: ps => p.bytes ++ sepBytes ps

def sepComments : List Piece → List (Bytes × Bool)
  | [] => []
  | p :: ps => p.comments ++ sepComments ps

/-- where the comments of a separator lie, given the offset at which the separator starts (a line comment's span
    includes the newline that ends it) -/
def sepSpans : Nat → List Piece → List (Nat × Nat)
  | _, [] => []
  | off, .blanks ws :: ps => sepSpans (off + ws.length) ps
  | off, p :: ps => (off, off + p.bytes.length) :: sepSpans (off + p.bytes.length) ps

/-- the trivia loop stops here: end of input, or a byte that is no blank and does not open a comment -/
def stopB : Bytes → Bool
  | [] => true
  | b :: tl => !isWS b && !(b == 45 && tl.head? == some 45) && !(b == 47 && tl.head? == some 42)

/-- a piece of a single-quoted string literal as written: a plain byte, a doubled quote, a backslash escape -/
inductive SP where
  | ch (b : UInt8)
  | dq
  | esc (e : UInt8)
  deriving Repr

def SP.src : SP → Bytes
  | .ch b => [b]
  | .dq => [39, 39]
  | .esc e => [92, e]

/-- what the piece stands for -/
def SP.val : SP → Bytes
  | .ch b => [b]
  | .dq => [39]
  | .esc e => if e == 110 then [10] else if e == 114 then [13] else if e == 116 then [9] else [e]

def SP.ok : SP → Bool
  | .ch b => decide (b.toNat < 128) && b != 39 && b != 92
  | .dq => true
  | .esc e => e == 92 || e == 34 || e == 39 || e == 96 || e == 110 || e == 114 || e == 116

def spSrc : List SP → Bytes
  | [] => []
  | p :: ps => p.src ++ spSrc ps
def spVal : List SP → Bytes
  | [] => []
  | p :: ps => p.val ++ spVal ps

/-- a piece of a double-quoted identifier: a plain byte or a doubled quote -/
inductive QP where
  | ch (b : UInt8)
  | dq
  deriving Repr

def QP.src : QP → Bytes
  | .ch b => [b]
  | .dq => [34, 34]
def QP.val : QP → Bytes
  | .ch b => [b]
  | .dq => [34]
def QP.ok : QP → Bool
  | .ch b => decide (b.toNat < 128) && b != 34 && b != 10
  | .dq => true
def qpSrc : List QP → Bytes
  | [] => []
  | p :: ps => p.src ++ qpSrc ps
def qpVal : List QP → Bytes
  | [] => []
  | p :: ps => p.val ++ qpVal ps

/-- a piece of a backtick-quoted identifier: any byte but a backtick, or a doubled backtick -/
inductive BP where
  | ch (b : UInt8)
  | dq
  deriving Repr
def BP.src : BP → Bytes
  | .ch b => [b]
  | .dq => [96, 96]
def BP.val : BP → Bytes
  | .ch b => [b]
  | .dq => [96]
def BP.ok : BP → Bool
  | .ch b => b != 96
  | .dq => true
def bpSrc : List BP → Bytes
  | [] => []
  | p :: ps => p.src ++ bpSrc ps
def bpVal : List BP → Bytes
  | [] => []
  | p :: ps => p.val ++ bpVal ps

inductive Lx where
  | word (w : Bytes)
  | compound (w1 ws w2 : Bytes)   -- a two-word keyword: first word, blank run, second word
  | int (ds : Bytes)
  | num (ip fp ex : Bytes)        -- digits, optional `.`digits (fp = [] : none), optional exponent text (ex = [] : none)
  | op (o : Bytes)
  | str (ps : List SP)
  | qid (qs : List QP)
  | bq (bs : List BP)
  deriving Repr

def fracBytes (fp : Bytes) : Bytes := if fp.isEmpty then [] else 46 :: fp

def isDigits : Bytes → Bool
  | [] => false
  | d :: ds => isDigitB d && ds.all isDigitB

/-- `e` or `E`, an optional sign, at least one digit -/
def isExpShaped : Bytes → Bool
  | e :: s :: ds => (e == 101 || e == 69) && (if s == 43 || s == 45 then isDigits ds else isDigits (s :: ds))
  | _ => false

def Lx.bytes : Lx → Bytes
  | .word w => w
  | .compound w1 ws w2 => w1 ++ (ws ++ w2)
  | .int ds => ds
  | .num ip fp ex => ip ++ (fracBytes fp ++ ex)
  | .op o => o
  | .str ps => 39 :: (spSrc ps ++ [39])
  | .qid qs => 34 :: (qpSrc qs ++ [34])
  | .bq bs => 96 :: (bpSrc bs ++ [96])

/-- type and value of the token a lexeme must be read as -/
def Lx.key (cls : CharClass) (tb : Tables) : Lx → Nat × Bytes
  | .word w => ((lookup tb.keywords (upper cls w)).getD tb.ttIdentifier, w)
  | .compound w1 _ w2 => ((lookup tb.compoundTypes (upper cls (w1 ++ [32] ++ w2))).getD 0, w1 ++ [32] ++ w2)
  | .int ds => (tb.ttNumber, ds)
  | .num ip fp ex => (tb.ttNumber, ip ++ (fracBytes fp ++ ex))
  | .op o => ((lookup tb.operators o).getD 0, o)
  | .str ps => (tb.ttSingle, spVal ps)
  | .qid qs => (tb.ttDouble, qpVal qs)
  | .bq bs => (tb.ttIdentifier, bpVal bs)

/-- first byte of an operator lexeme: ASCII and dispatched to readPunctuation's table branch -/
def opHeadOK (cls : CharClass) (b : UInt8) : Bool :=
  decide (b.toNat < 128) && !isIdentStart cls b.toNat && !isDigitB b && b != 34 && b != 96 && b != 39 && b != 36 && b != 64

def uniqueOp (tb : Tables) (o : Bytes) : Bool :=
  match tb.operators.filter (·.1 == o) with
  | [_] => true
  | _ => false

/-- a literal that begins with a doubled quote would be read as the opening of a triple-quoted string -/
def noTripleStart : List SP → Bool
  | .dq :: _ => false
  | _ => true

def isWordShaped : Bytes → Bool
  | [] => false
  | c :: cs => isWordStartB c && cs.all isWordCharB

def Lx.ok (cls : CharClass) (tb : Tables) : Lx → Bool
  | .word w =>
    match w with
    | [] => false
    | c :: cs => isWordStartB c && cs.all isWordCharB
  | .compound w1 ws w2 =>
    isWordShaped w1 && isWordShaped w2 && !ws.isEmpty && ws.all isWS && tb.compoundStarts.contains (upper cls w1) &&
    (lookup tb.compoundTypes (upper cls (w1 ++ [32] ++ w2))).isSome
  | .int ds =>
    match ds with
    | [] => false
    | d :: ds' => isDigitB d && ds'.all isDigitB
  | .num ip fp ex =>
    isDigits ip && (fp.isEmpty || isDigits fp) && (ex.isEmpty || isExpShaped ex) && !(fp.isEmpty && ex.isEmpty)
  | .op o =>
    match o with
    | [] => false
    | b :: _ => opHeadOK cls b && uniqueOp tb o
  | .str ps => !isIdentStart cls 39 && ps.all SP.ok && noTripleStart ps
  | .qid qs => !isIdentStart cls 34 && qs.all QP.ok
  | .bq bs => !isIdentStart cls 96 && bs.all BP.ok

def followWord (cls : CharClass) : Bytes → Bool
  | [] => true
  | s :: _ => decide (s.toNat < 128) && !isIdentChar cls s.toNat
def followInt : Bytes → Bool
  | [] => true
  | s :: _ => decide (s.toNat < 128) && !isDigitB s && s != 46 && s != 101 && s != 69
/-- after the digits of a fraction: anything but a digit or the opening of an exponent -/
def followFrac : Bytes → Bool
  | [] => true
  | s :: _ => decide (s.toNat < 128) && !isDigitB s && s != 101 && s != 69
/-- after the digits of an exponent: anything but a digit -/
def followExp : Bytes → Bool
  | [] => true
  | s :: _ => decide (s.toNat < 128) && !isDigitB s
def followOp (tb : Tables) (o : Bytes) : Bytes → Bool
  | [] => true
  | s :: _ => tb.operators.all fun x => !(o ++ [s]).isPrefixOf x.1
def followQuote (q : UInt8) : Bytes → Bool
  | [] => true
  | s :: _ => decide (s.toNat < 128) && s != q

/-- after the first word of a two-word keyword: what follows the blanks is no word, or a word that does not complete
    a two-word keyword with `w` -/
def noCompound (cls : CharClass) (tb : Tables) (w R : Bytes) : Bool :=
  match R.dropWhile isWS with
  | [] => true
  | s :: r4 => decide (s.toNat < 128) &&
      (!isIdentStart cls s.toNat ||
        (isWordStartB s && followWord cls (r4.dropWhile isWordCharB) &&
          (lookup tb.compoundTypes (upper cls (w ++ [32] ++ (s :: r4.takeWhile isWordCharB)))).isNone))

/-- may the lexeme be followed by these bytes without being read differently? -/
def Lx.follow (cls : CharClass) (tb : Tables) : Lx → Bytes → Bool
  | .word w => fun R => followWord cls R && (!tb.compoundStarts.contains (upper cls w) || noCompound cls tb w R)
  | .compound _ _ _ => followWord cls
  | .int _ => followInt
  | .num _ _ ex => if ex.isEmpty then followFrac else followExp
  | .op o => followOp tb o
  | .str _ => followQuote 39
  | .qid _ => followQuote 34
  | .bq _ => fun R => R.head? != some 96

/-- an item: a lexeme and the separator after it (possibly empty) -/
abbrev Item2 := Lx × List Piece

def flat2 : List Item2 → Bytes
  | [] => []
  | it :: rest => it.1.bytes ++ (sepBytes it.2 ++ flat2 rest)

def itemsComments : List Item2 → List (Bytes × Bool)
  | [] => []
  | it :: rest => sepComments it.2 ++ itemsComments rest

/-- the decidable side condition: every lexeme and separator piece is well formed, and at every junction the bytes
    that follow a lexeme neither extend it nor turn its beginning into a comment opener -/
def seqOK (cls : CharClass) (tb : Tables) : List Item2 → Bool
  | [] => true
  | it :: rest =>
    it.1.ok cls tb && it.2.all Piece.ok && it.1.follow cls tb (sepBytes it.2 ++ flat2 rest) &&
    stopB (it.1.bytes ++ (sepBytes it.2 ++ flat2 rest)) && seqOK cls tb rest

/-- `seqOK` for items that are followed by `tail` -/
def seqOKT (cls : CharClass) (tb : Tables) (tail : Bytes) : List Item2 → Bool
  | [] => true
  | it :: rest =>
    it.1.ok cls tb && it.2.all Piece.ok && it.1.follow cls tb (sepBytes it.2 ++ (flat2 rest ++ tail)) &&
    stopB (it.1.bytes ++ (sepBytes it.2 ++ (flat2 rest ++ tail))) && seqOKT cls tb tail rest

/-- where each lexeme lies in the text: start and end byte offsets, given the offset at which the first one starts -/
def spans : Nat → List Item2 → List (Nat × Nat)
  | _, [] => []
  | off, it :: rest => (off, off + it.1.bytes.length) :: spans (off + it.1.bytes.length + (sepBytes it.2).length) rest

/-- where the comments of the separators lie in the text -/
def itemsCommentSpans : Nat → List Item2 → List (Nat × Nat)
  | _, [] => []
  | off, it :: rest =>
    sepSpans (off + it.1.bytes.length) it.2 ++ itemsCommentSpans (off + it.1.bytes.length + (sepBytes it.2).length) rest

end GoSQLXModel.Lex
