import GoSQLXModel.Model.Lex
/-!
# Every reader strictly shortens the remaining input; the operator read is the longest

`nextToken_progress`: a token is never produced without consuming at least one byte.

Each reader is taken apart by its own case principle (`fun_cases` / `fun_induction`).  A hypothesis `reader .. = .ok p` is
reverted first so that the case split rewrites it, and is stated about a pair `p` rather than `(t, rest)`: `cases h`
then never has to eliminate a suffix that the reader bound with `let`.
-/
namespace GoSQLXModel.Lex
variable {cls : CharClass} {tb : Tables} {inp bs : Bytes} {p : Tok × Bytes}

theorem nextRune_suffix {bs rest : Bytes} {r : Nat} (h : nextRune bs = some (r, rest)) : rest <:+ bs := by
  cases bs with
  | nil => cases h
  | cons b t => cases h; exact List.drop_suffix _ _

theorem nextRune_lt {bs rest : Bytes} {r : Nat} (h : nextRune bs = some (r, rest)) : rest.length < bs.length := by
  cases bs with
  | nil => cases h
  | cons b t => cases h; simp only [List.length_drop, List.length_cons]; omega

theorem dropRunesF_suffix (p : Nat → Bool) (fuel : Nat) (bs : Bytes) : dropRunesF p fuel bs <:+ bs := by
  fun_induction dropRunesF p fuel bs
  case case3 hn _ ih => exact ih.trans (nextRune_suffix hn)
  all_goals exact List.suffix_refl _

theorem dropRunes_suffix (p : Nat → Bool) (bs : Bytes) : dropRunes p bs <:+ bs := dropRunesF_suffix p _ bs

theorem quotedIdentF_suffix (quote fuel : Nat) (bs acc : Bytes) {v rest : Bytes}
    (h : quotedIdentF quote fuel bs acc = .inl (some (v, rest))) : rest <:+ bs := by
  fun_induction quotedIdentF quote fuel bs acc
  -- a doubled quote: two runes on
  case case3 hn _ _ _ _ hn2 _ ih => exact (ih h).trans ((nextRune_suffix hn2).trans (nextRune_suffix hn))
  -- the closing quote
  case case4 | case5 => cases h; exact nextRune_suffix ‹nextRune _ = some (_, rest)›
  -- any other rune
  case case7 hn _ _ _ ih => exact (ih h).trans (nextRune_suffix hn)
  -- out of fuel, end of input, a line feed: nothing is returned
  all_goals cases h

theorem backtickF_suffix (bs acc : Bytes) {v rest : Bytes} (h : backtickF bs acc = some (v, rest)) : rest <:+ bs := by
  fun_induction backtickF bs acc
  case case2 ih => exact (ih h).trans ((List.suffix_cons _ _).trans (List.suffix_cons _ _))
  case case3 | case4 => cases h; exact List.suffix_cons _ _
  case case5 ih => exact (ih h).trans (List.suffix_cons _ _)
  all_goals cases h

theorem stringBodyF_suffix (inp : Bytes) (quote fuel : Nat) (bs acc : Bytes) {v rest : Bytes}
    (h : stringBodyF inp quote fuel bs acc = .ok (some (v, rest))) : rest <:+ bs := by
  fun_induction stringBodyF inp quote fuel bs acc
  -- a doubled quote: two runes on
  case case3 hn _ _ _ _ hn2 _ ih => exact (ih h).trans ((nextRune_suffix hn2).trans (nextRune_suffix hn))
  -- the closing quote
  case case4 | case5 => cases h; exact nextRune_suffix ‹nextRune _ = some (_, rest)›
  -- the four accepted escapes: the backslash byte and one rune on
  case case7 | case8 | case9 | case10 =>
    rename_i ih; exact (ih h).trans ((nextRune_suffix ‹nextRune (List.tail _) = _›).trans (List.tail_suffix _))
  -- any other rune
  case case12 hn _ _ _ ih => exact (ih h).trans (nextRune_suffix hn)
  -- out of fuel, end of input, a bad escape: nothing is returned
  all_goals cases h

theorem tripleCloses_suffix {quote : Nat} {bs t3 : Bytes} (h : tripleCloses quote bs = some t3) : t3 <:+ bs := by
  revert h; fun_cases tripleCloses quote bs <;> intro h <;> cases h
  exact (nextRune_suffix ‹_›).trans ((nextRune_suffix ‹_›).trans (nextRune_suffix ‹_›))

theorem tripleBodyF_suffix (quote fuel : Nat) (bs acc : Bytes) {v rest : Bytes}
    (h : tripleBodyF quote fuel bs acc = some (v, rest)) : rest <:+ bs := by
  fun_induction tripleBodyF quote fuel bs acc
  case case2 hc => cases h; exact tripleCloses_suffix hc
  case case4 hn ih => exact (ih h).trans (nextRune_suffix hn)
  all_goals cases h

theorem dollarBodyF_suffix (closing : Bytes) (fuel : Nat) (bs acc : Bytes) {v rest : Bytes}
    (h : dollarBodyF closing fuel bs acc = some (v, rest)) : rest <:+ bs := by
  fun_induction dollarBodyF closing fuel bs acc
  case case3 hc => rw [if_pos hc] at h; cases h; exact List.drop_suffix _ _
  case case4 hc _ _ ih => rw [if_neg hc] at h; exact (ih h).trans (List.drop_suffix _ _)
  all_goals cases h

theorem readIdentifier_lt (hne : bs ≠ []) : (readIdentifier cls tb bs).2.length < bs.length := by
  fun_cases readIdentifier cls tb bs
  case case1 hn => cases bs with | nil => exact absurd rfl hne | cons => cases hn
  case case3 =>
    -- the second word of a compound keyword starts after the blanks that follow the first
    exact Nat.lt_of_le_of_lt (((dropRunes_suffix _ _).trans ((nextRune_suffix ‹_›).trans ((List.dropWhile_suffix _).trans
      (dropRunes_suffix _ _)))).length_le) (nextRune_lt ‹_›)
  all_goals exact Nat.lt_of_le_of_lt (dropRunes_suffix _ _).length_le (nextRune_lt ‹_›)

theorem numFrac_suffix {r1 r3 : Bytes} (h : numFrac inp r1 = .ok r3) : r3 <:+ r1 := by
  revert h; fun_cases numFrac inp r1 <;> intro h <;> cases h
  · exact (dropRunes_suffix _ _).trans (List.suffix_cons _ _)
  · exact List.suffix_refl _

theorem skipSign_suffix (bs : Bytes) : skipSign bs <:+ bs := by
  fun_cases skipSign bs
  · exact List.suffix_cons _ _
  all_goals exact List.suffix_refl _

theorem numExp_suffix {r3 r6 : Bytes} (h : numExp inp r3 = .ok r6) : r6 <:+ r3 := by
  revert h; fun_cases numExp inp r3 <;> intro h <;> cases h
  case case2 hs _ =>
    exact (dropRunes_suffix _ _).trans ((hs ▸ skipSign_suffix _).trans (List.suffix_cons _ _))
  all_goals exact List.suffix_refl _

theorem readNumber_lt (hd : isDigitR (decodeRune bs).1 = true) (hne : bs ≠ []) (h : readNumber tb inp bs = .ok p) :
    p.2.length < bs.length := by
  -- the leading digit is dropped by `dropRunes isDigitR`; fraction and exponent only shorten further
  have hlt : (dropRunes isDigitR bs).length < bs.length := by
    cases bs with
    | nil => exact absurd rfl hne
    | cons b tl =>
      have hn : nextRune (b :: tl) = some ((decodeRune (b :: tl)).1, _) := rfl
      simp only [dropRunes, List.length_cons, dropRunesF, hn, hd]
      exact Nat.lt_of_le_of_lt (dropRunesF_suffix _ _ _).length_le (nextRune_lt hn)
  revert h; fun_cases readNumber tb inp bs <;> intro h <;> cases h
  · exact hlt
  · exact Nat.lt_of_le_of_lt ((numExp_suffix ‹_›).trans (numFrac_suffix ‹_›)).length_le hlt

theorem readQuotedIdentifier_lt (h : readQuotedIdentifier tb inp bs = .ok p) : p.2.length < bs.length := by
  revert h; fun_cases readQuotedIdentifier tb inp bs <;> intro h <;> cases h
  exact Nat.lt_of_le_of_lt (quotedIdentF_suffix _ _ _ _ ‹_›).length_le (nextRune_lt ‹_›)

theorem readBacktick_lt (hne : bs ≠ []) (h : readBacktick tb inp bs = .ok p) : p.2.length < bs.length := by
  revert h; fun_cases readBacktick tb inp bs <;> intro h <;> cases h
  have := (backtickF_suffix _ _ ‹_›).length_le
  cases bs with
  | nil => exact absurd rfl hne
  | cons b tl => exact Nat.lt_succ_of_le this

theorem dropTwoRunes_suffix (r1 : Bytes) : dropTwoRunes r1 <:+ r1 := by
  fun_cases dropTwoRunes r1
  · exact (nextRune_suffix ‹_›).trans (nextRune_suffix ‹_›)
  · exact nextRune_suffix ‹_›
  · exact List.suffix_refl _

theorem readQuotedString_lt (h : readQuotedString tb inp bs = .ok p) : p.2.length < bs.length := by
  revert h; fun_cases readQuotedString tb inp bs <;> intro h <;> cases h
  · exact Nat.lt_of_le_of_lt ((tripleBodyF_suffix _ _ _ _ ‹_›).trans (dropTwoRunes_suffix _)).length_le (nextRune_lt ‹_›)
  · exact Nat.lt_of_le_of_lt (stringBodyF_suffix _ _ _ _ _ ‹_›).length_le (nextRune_lt ‹_›)

/-- an invariant rule for `foldl`: `seen` is the part of the list already folded -/
theorem foldl_inv {α β} (f : β → α → β) (Inv : List α → β → Prop)
    (step : ∀ seen b x, Inv seen b → Inv (seen ++ [x]) (f b x)) :
    ∀ (l seen : List α) (b : β), Inv seen b → Inv (seen ++ l) (l.foldl f b)
  | [], seen, b, h => by simpa using h
  | x :: l, seen, b, h => by
    have := foldl_inv f Inv step l (seen ++ [x]) (f b x) (step seen b x h)
    simpa using this

/-- `best` is a longest entry of `seen` among those that are non-empty prefixes of `bs`, if there is one -/
def Longest (bs : Bytes) (seen : List (Bytes × Nat)) : Option (Bytes × Nat) → Prop
  | some o => o ∈ seen ∧ o.1.isPrefixOf bs = true ∧ o.1 ≠ [] ∧
      ∀ x ∈ seen, x.1.isPrefixOf bs = true → x.1 ≠ [] → x.1.length ≤ o.1.length
  | none => ∀ x ∈ seen, x.1.isPrefixOf bs = true → x.1 = []

/-- an entry that is no non-empty prefix, or is not longer than `best`, leaves `best` the longest -/
theorem Longest.keep {bs : Bytes} {seen : List (Bytes × Nat)} {best : Option (Bytes × Nat)} {y : Bytes × Nat}
    (h : Longest bs seen best)
    (hy : y.1.isPrefixOf bs = true → y.1 ≠ [] → ∃ b, best = some b ∧ y.1.length ≤ b.1.length) :
    Longest bs (seen ++ [y]) best := by
  cases best with
  | none =>
    intro x hx hp
    rcases List.mem_append.1 hx with hx | hx
    · exact h x hx hp
    · cases List.mem_singleton.1 hx
      exact Classical.byContradiction fun hne => nomatch hy hp hne
  | some b =>
    obtain ⟨hb1, hb2, hb3, hb4⟩ := h
    refine ⟨List.mem_append_left _ hb1, hb2, hb3, fun x hx hp hne => ?_⟩
    rcases List.mem_append.1 hx with hx | hx
    · exact hb4 x hx hp hne
    · cases List.mem_singleton.1 hx
      obtain ⟨b', e, hle⟩ := hy hp hne
      cases e
      exact hle

/-- a non-empty prefix that is longer than `best` is the longest -/
theorem Longest.take {bs : Bytes} {seen : List (Bytes × Nat)} {best : Option (Bytes × Nat)} {y : Bytes × Nat}
    (h : Longest bs seen best) (hp : y.1.isPrefixOf bs = true) (hne : y.1 ≠ [])
    (hy : ∀ b, best = some b → b.1.length < y.1.length) : Longest bs (seen ++ [y]) (some y) := by
  refine ⟨List.mem_append_right _ (List.mem_singleton_self y), hp, hne, fun x hx hpx hnx => ?_⟩
  rcases List.mem_append.1 hx with hx | hx
  · cases best with
    | none => exact absurd (h x hx hpx) hnx
    | some b => exact Nat.le_trans (h.2.2.2 x hx hpx hnx) (Nat.le_of_lt (hy b rfl))
  · cases List.mem_singleton.1 hx
    exact Nat.le_refl _

theorem longestOp_spec (ops : List (Bytes × Nat)) (bs : Bytes) : Longest bs ops (longestOp ops bs) := by
  refine foldl_inv _ (Longest bs) ?_ ops [] none nofun
  intro seen best y h
  by_cases hy : (y.1.isPrefixOf bs && y.1 != []) = true
  · rw [if_pos hy]
    simp only [Bool.and_eq_true, bne_iff_ne] at hy
    cases best with
    | none => exact h.take hy.1 hy.2 nofun
    | some b =>
      dsimp only
      by_cases hlen : y.1.length > b.1.length
      · rw [if_pos hlen]
        exact h.take hy.1 hy.2 fun b' e => Option.some.inj e ▸ hlen
      · rw [if_neg hlen]
        exact h.keep fun _ _ => ⟨b, rfl, Nat.le_of_not_gt hlen⟩
  · rw [if_neg hy]
    exact h.keep fun hp hne => absurd (by simp [hp, hne]) hy

theorem longestOp_some {ops : List (Bytes × Nat)} {o : Bytes × Nat} (h : longestOp ops bs = some o) :
    o ∈ ops ∧ o.1.isPrefixOf bs = true ∧ o.1 ≠ [] ∧
      ∀ x ∈ ops, x.1.isPrefixOf bs = true → x.1 ≠ [] → x.1.length ≤ o.1.length := by
  have := longestOp_spec ops bs
  rwa [h] at this

/-- **maximal munch**: the operator read is a table entry that is a prefix of the input, and no table entry that
    is also a prefix is longer -/
theorem longestOp_maximal (ops : List (Bytes × Nat)) (bs : Bytes) {o : Bytes × Nat} (h : longestOp ops bs = some o) :
    o ∈ ops ∧ o.1.isPrefixOf bs = true ∧ ∀ x ∈ ops, x.1.isPrefixOf bs = true → x.1 ≠ [] → x.1.length ≤ o.1.length :=
  ⟨(longestOp_some h).1, (longestOp_some h).2.1, (longestOp_some h).2.2.2⟩

theorem readDollar_lt (hne : bs ≠ []) (h : readDollar cls tb inp bs = .ok p) : p.2.length < bs.length := by
  have hd : (bs.drop 1).length < bs.length := by
    cases bs with
    | nil => exact absurd rfl hne
    | cons b tl => exact Nat.lt_succ_self _
  revert h; fun_cases readDollar cls tb inp bs <;> intro h <;> cases h
  case case2 => exact Nat.lt_of_le_of_lt (dropRunes_suffix _ _).length_le hd
  case case5 r2 _ _ hn2 _ _ _ _ rest hb =>
    -- the body starts after the tag's closing `$`, and the tag after the opening one
    have h2 : r2.length ≤ (bs.drop 1).length := by
      show (if _ then _ else _ : Bytes).length ≤ _
      split
      · exact Nat.le_refl _
      · exact (dropRunes_suffix _ _).length_le
    have := (dollarBodyF_suffix _ _ _ _ hb).length_le
    have := nextRune_lt hn2
    show rest.length < _
    omega
  all_goals exact hd

theorem readPunctuation_lt (h : readPunctuation cls tb inp bs = .ok p) : p.2.length < bs.length := by
  revert h; fun_cases readPunctuation cls tb inp bs <;> intro h
  case case1 => cases h
  case case2 => exact readDollar_lt (List.cons_ne_nil _ _) h
  case case3 | case4 => cases h; simp only [List.length_drop, List.length_cons]; omega
  case case5 r1 _ _ _ _ hn _ _ _ _ _ hr =>
    cases h
    have : (readIdentifier cls tb r1).2.length < r1.length := readIdentifier_lt (by rintro rfl; cases hn)
    rw [hr] at this
    exact Nat.lt_succ_of_lt this
  case case6 | case7 => cases h; exact Nat.lt_succ_self _
  case case8 op _ ho =>
    rw [ho] at h; cases h
    have : op.length ≠ 0 := fun e => (longestOp_some ho).2.2.1 (List.eq_nil_of_length_eq_zero e)
    simp only [List.length_drop, List.length_cons]; omega
  case case9 ho => rw [ho] at h; cases h

/-- **progress**: whenever a token is produced, at least one byte has been consumed -/
theorem nextToken_progress (cls : CharClass) (tb : Tables) (inp : Bytes) {bs : Bytes} {t : Tok} {rest : Bytes}
    (hne : bs ≠ []) (h : nextToken cls tb inp bs = .ok (t, rest)) : rest.length < bs.length := by
  revert h; fun_cases nextToken cls tb inp bs <;> intro h
  · have := readIdentifier_lt (cls := cls) (tb := tb) hne
    rwa [Except.ok.inj h] at this
  · exact readNumber_lt ‹_› hne h
  · exact readQuotedIdentifier_lt h
  · exact readBacktick_lt hne h
  · exact readQuotedString_lt h
  · exact readPunctuation_lt h

theorem afterLine_suffix (bs : Bytes) : afterLine bs <:+ bs := by
  fun_induction afterLine bs
  case case3 ih => exact ih.trans (List.suffix_cons _ _)
  all_goals simp

theorem afterBlock_suffix (bs : Bytes) : afterBlock bs <:+ bs := by
  fun_induction afterBlock bs
  case case3 => exact (List.suffix_cons _ _).trans (List.suffix_cons _ _)
  case case4 ih => exact ih.trans (List.suffix_cons _ _)
  all_goals exact List.nil_suffix

theorem skipTriviaF_suffix (inp : Bytes) (fuel : Nat) (rest : Bytes) (cs : List Comment) :
    (skipTriviaF inp fuel rest cs).1 <:+ rest := by
  fun_induction skipTriviaF inp fuel rest cs
  case case2 rest _ r1 _ _ body hr _ _ _ _ ih =>
    have hw : r1 <:+ rest := List.dropWhile_suffix _
    exact ih.trans ((afterLine_suffix _).trans ((List.suffix_cons _ _).trans ((List.suffix_cons _ _).trans (hr ▸ hw))))
  case case3 rest _ r1 _ _ body hr _ _ _ ih =>
    have hw : r1 <:+ rest := List.dropWhile_suffix _
    exact ih.trans ((afterBlock_suffix _).trans ((List.suffix_cons _ _).trans ((List.suffix_cons _ _).trans (hr ▸ hw))))
  all_goals exact List.dropWhile_suffix _

end GoSQLXModel.Lex
