import GoSQLXModel.Proofs.LexAscii
import GoSQLXModel.Proofs.LexProgress
/-!
# Lexemes are read whole

For each class of lexeme of the reference grammar, `nextToken` reads the lexeme's bytes whole, as the token the grammar
says, when what follows passes `Lx.follow` (`nextToken_word2` … `nextToken_bq2`; `Lx.reads` for all of them).
-/
namespace GoSQLXModel.Lex
variable {cls : CharClass} {tb : Tables} {inp : Bytes}

/-- a run of bytes satisfying `p` ends here: at the end of the input or at an ASCII byte that does not satisfy `p` -/
def endsRun (p : Nat → Bool) : Bytes → Bool
  | [] => true
  | s :: _ => decide (s.toNat < 128) && !p s.toNat

theorem dropRunesF_follow (p : Nat → Bool) (R : Bytes) (hR : endsRun p R = true) :
    ∀ (cs : Bytes) (fuel : Nat), (∀ x ∈ cs, x.toNat < 128 ∧ p x.toNat = true) → cs.length ≤ fuel →
      dropRunesF p fuel (cs ++ R) = R
  | [], 0, _, _ => rfl
  | [], fuel + 1, _, _ => by
    cases R with
    | nil => rfl
    | cons s tl =>
      simp only [endsRun, Bool.and_eq_true, decide_eq_true_eq, Bool.not_eq_true'] at hR
      simp [dropRunesF, nextRune_ascii s tl hR.1, hR.2]
  | c :: cs, fuel + 1, hcs, hf => by
    have hc := hcs c (by simp)
    simp only [List.cons_append, dropRunesF, nextRune_ascii c _ hc.1, hc.2]
    exact dropRunesF_follow p R hR cs fuel (fun x hx => hcs x (by simp [hx])) (by simpa using hf)
  | _ :: _, 0, _, hf => by simp at hf

theorem dropRunes_follow (p : Nat → Bool) (cs R : Bytes) (hcs : ∀ x ∈ cs, x.toNat < 128 ∧ p x.toNat = true)
    (hR : endsRun p R = true) : dropRunes p (cs ++ R) = R :=
  dropRunesF_follow p R hR cs _ hcs (by simp)

theorem followWord_endsRun (R : Bytes) : followWord cls R = endsRun (isIdentChar cls) R := by cases R <;> rfl

theorem followWord_ws (hA : AsciiOK cls) {w : UInt8} (hw : isWS w = true) (Z : Bytes) : followWord cls (w :: Z) = true := by
  simp [followWord, ws_lt w hw, hA.blank w hw]

theorem dropRunes_word (hA : AsciiOK cls) (cs R : Bytes) (hcs : cs.all isWordCharB = true)
    (hR : followWord cls R = true) : dropRunes (isIdentChar cls) (cs ++ R) = R :=
  dropRunes_follow _ cs R
    (fun x hx => have h := List.all_eq_true.1 hcs x hx; ⟨wordChar_lt x h, wordChar_ident cls hA x h⟩)
    (followWord_endsRun R ▸ hR)

theorem dropDigits (ds R : Bytes) (hds : ds.all isDigitB = true) (hR : endsRun isDigitR R = true) :
    dropRunes isDigitR (ds ++ R) = R :=
  dropRunes_follow _ ds R (fun x hx => have h := List.all_eq_true.1 hds x hx; ⟨digit_lt x h, h⟩) hR

theorem nextToken_word2 (hA : AsciiOK cls) (c : UInt8) (cs R : Bytes)
    (hc : isWordStartB c = true) (hcs : cs.all isWordCharB = true) (hR : followWord cls R = true)
    (hcomp : (!tb.compoundStarts.contains (upper cls (c :: cs)) || noCompound cls tb (c :: cs) R) = true) :
    nextToken cls tb inp ((c :: cs) ++ R) =
      .ok ({ ty := (lookup tb.keywords (upper cls (c :: cs))).getD tb.ttIdentifier, value := c :: cs }, R) := by
  have hc128 := wordChar_lt c (wordStart_char c hc)
  simp only [List.cons_append, nextToken_ascii cls tb inp c _ hc128, wordStart_identStart cls hA c hc, readIdentifier,
    nextRune_ascii c _ hc128, dropRunes_word hA cs R hcs hR, consumed_cons]
  cases hct : tb.compoundStarts.contains (upper cls (c :: cs)) with
  | false => simp
  | true =>
    -- the first word of a two-word keyword: `noCompound` says the look-ahead finds nothing to join it with
    simp only [hct, Bool.not_true, Bool.false_or, noCompound] at hcomp
    simp only [if_true]
    cases hr3 : R.dropWhile isWS with
    | nil => simp [nextRune]
    | cons s r4 =>
      simp only [hr3, Bool.and_eq_true, decide_eq_true_eq, Bool.or_eq_true, Bool.not_eq_true', and_assoc] at hcomp
      obtain ⟨hs128, hno | ⟨_, hfol, hnone⟩⟩ := hcomp
      · simp [nextRune_ascii s r4 hs128, hno]
      · have hd2 : dropRunes (isIdentChar cls) r4 = r4.dropWhile isWordCharB := by
          have := dropRunes_word hA (r4.takeWhile isWordCharB) _ List.all_takeWhile hfol
          rwa [List.takeWhile_append_dropWhile] at this
        have hc2 : consumed (s :: r4) (r4.dropWhile isWordCharB) = s :: r4.takeWhile isWordCharB := by
          rw [← consumed_cons s (r4.takeWhile isWordCharB), List.takeWhile_append_dropWhile]
        have hnone := Option.isNone_iff_eq_none.1 hnone
        simp only [List.cons_append, List.append_assoc, List.nil_append] at hnone
        simp only [nextRune_ascii s r4 hs128, hd2, hc2, List.cons_append, List.append_assoc, List.nil_append, hnone]
        split <;> rfl

theorem nextToken_compound2 (hA : AsciiOK cls) (c : UInt8) (cs ws : Bytes)
    (c2 : UInt8) (cs2 R : Bytes) (cty : Nat)
    (hc : isWordStartB c = true) (hcs : cs.all isWordCharB = true) (hc2 : isWordStartB c2 = true) (hcs2 : cs2.all isWordCharB = true)
    (hne : ws ≠ []) (hws : ws.all isWS = true) (hstart : tb.compoundStarts.contains (upper cls (c :: cs)) = true)
    (hty : lookup tb.compoundTypes (upper cls ((c :: cs) ++ [32] ++ (c2 :: cs2))) = some cty) (hR : followWord cls R = true) :
    nextToken cls tb inp ((c :: cs) ++ (ws ++ (c2 :: cs2)) ++ R) =
      .ok ({ ty := cty, value := (c :: cs) ++ [32] ++ (c2 :: cs2) }, R) := by
  have hc128 := wordChar_lt c (wordStart_char c hc)
  have hc2128 := wordChar_lt c2 (wordStart_char c2 hc2)
  have hfol1 : followWord cls (ws ++ c2 :: (cs2 ++ R)) = true := by
    obtain ⟨w0, ws', rfl⟩ := List.exists_cons_of_ne_nil hne
    exact followWord_ws hA ((List.all_eq_true.1 hws) w0 (by simp)) _
  have hr3 : (ws ++ c2 :: (cs2 ++ R)).dropWhile isWS = c2 :: (cs2 ++ R) := by
    rw [List.dropWhile_append_of_pos (List.all_eq_true.1 hws),
      List.dropWhile_cons_of_neg (by simp [(lexemeHead (b := c2) (by simp [hc2])).1])]
  simp only [List.cons_append, List.append_assoc, List.nil_append] at hty ⊢
  simp only [nextToken_ascii cls tb inp c _ hc128, wordStart_identStart cls hA c hc, if_true, readIdentifier,
    nextRune_ascii c _ hc128, dropRunes_word hA cs _ hcs hfol1, consumed_cons, hstart, hr3,
    nextRune_ascii c2 _ hc2128, wordStart_identStart cls hA c2 hc2, dropRunes_word hA cs2 R hcs2 hR,
    List.cons_append, List.append_assoc, List.nil_append, hty]

/-- the digits are read, then whatever fraction and exponent `numFrac` and `numExp` find; with nothing after the digits
    this is the integer -/
theorem nextToken_number (hA : AsciiOK cls) (d : UInt8) (ds Y R r3 : Bytes) (hd : isDigitB d = true)
    (hds : ds.all isDigitB = true) (hX : endsRun isDigitR (Y ++ R) = true)
    (h1 : numFrac inp (Y ++ R) = .ok r3) (h2 : numExp inp r3 = .ok R) :
    nextToken cls tb inp ((d :: ds) ++ (Y ++ R)) = .ok ({ ty := tb.ttNumber, value := (d :: ds) ++ Y }, R) := by
  have hdrop := dropDigits (d :: ds) (Y ++ R) (by simp [hd, hds]) hX
  have hcons : consumed (d :: (ds ++ (Y ++ R))) R = d :: (ds ++ Y) := by
    rw [← List.append_assoc]; exact consumed_cons d (ds ++ Y) R
  simp only [List.cons_append] at hdrop ⊢
  simp only [nextToken_ascii cls tb inp d _ (digit_lt d hd), digit_not_identStart hA hd, hd, Bool.false_eq_true, if_false, if_true,
    readNumber, hdrop, h1, h2, hcons]
  split
  · -- nothing after the digits: `Y` and `R` are empty
    rename_i hemp
    obtain ⟨rfl, rfl⟩ := List.append_eq_nil_iff.1 (List.isEmpty_iff.1 hemp)
    simpa using hcons
  · rfl

theorem numFrac_other (X : Bytes) (h : X.head? ≠ some 46) : numFrac inp X = .ok X := by
  unfold numFrac
  split
  · simp at h
  · rfl

theorem numExp_other (X : Bytes) (h : ∀ s ∈ X.head?, s ≠ 101 ∧ s ≠ 69) : numExp inp X = .ok X := by
  cases X with
  | nil => rfl
  | cons s tl =>
    have := h s rfl
    simp [numExp, this.1, this.2]

theorem nextToken_int2 (hA : AsciiOK cls) (d : UInt8) (ds R : Bytes)
    (hd : isDigitB d = true) (hds : ds.all isDigitB = true) (hR : followInt R = true) :
    nextToken cls tb inp ((d :: ds) ++ R) = .ok ({ ty := tb.ttNumber, value := d :: ds }, R) := by
  have hR' : endsRun isDigitR R = true ∧ R.head? ≠ some 46 ∧ ∀ s ∈ R.head?, s ≠ 101 ∧ s ≠ 69 := by
    cases R with
    | nil => simp [endsRun]
    | cons s tl => simpa [followInt, endsRun, isDigitR_toNat, and_assoc] using hR
  simpa using nextToken_number hA d ds [] R R hd hds hR'.1 (numFrac_other R hR'.2.1) (numExp_other R hR'.2.2)

theorem isDigits_cons {ds : Bytes} (h : isDigits ds = true) :
    ∃ d ds', ds = d :: ds' ∧ isDigitB d = true ∧ ds'.all isDigitB = true := by
  cases ds with
  | nil => simp [isDigits] at h
  | cons d ds' => exact ⟨d, ds', rfl, by simpa [isDigits] using h⟩

theorem numFrac_digits (fp X : Bytes) (hfp : isDigits fp = true) (hX : endsRun isDigitR X = true) :
    numFrac inp (46 :: (fp ++ X)) = .ok X := by
  obtain ⟨d, ds, rfl, hd, hds⟩ := isDigits_cons hfp
  have := dropDigits (d :: ds) X (by simp [hd, hds]) hX
  simp only [List.cons_append] at this
  simp [numFrac, isDigitR_toNat, hd, this]

theorem numExp_shaped (ex R : Bytes) (hex : isExpShaped ex = true) (hR : endsRun isDigitR R = true) :
    numExp inp (ex ++ R) = .ok R ∧ endsRun isDigitR (ex ++ R) = true ∧ (ex ++ R).head? ≠ some 46 := by
  match ex, hex with
  | e :: s :: ds, hex =>
    simp only [isExpShaped, Bool.and_eq_true] at hex
    obtain ⟨he, hrest⟩ := hex
    have he' : e = 101 ∨ e = 69 := by simpa using he
    refine ⟨?_, by rcases he' with rfl | rfl <;> rfl, by rcases he' with rfl | rfl <;> simp⟩
    split at hrest
    · rename_i hsign
      obtain ⟨d, ds', rfl, hd, hds⟩ := isDigits_cons hrest
      have := dropDigits (d :: ds') R (by simp [hd, hds]) hR
      simp only [List.cons_append] at this
      simp [numExp, he, skipSign, hsign, isDigitR_toNat, hd, this]
    · rename_i hsign
      have := dropDigits (s :: ds) R (by simpa [isDigits] using hrest) hR
      simp only [List.cons_append] at this
      simp only [isDigits, Bool.and_eq_true] at hrest
      simp [numExp, he, skipSign, hsign, isDigitR_toNat, hrest.1, this]

theorem nextToken_num2 (hA : AsciiOK cls) (ip fp ex R : Bytes)
    (hip : isDigits ip = true) (hfp : (fp.isEmpty || isDigits fp) = true) (hex : (ex.isEmpty || isExpShaped ex) = true)
    (hne : (fp.isEmpty && ex.isEmpty) = false) (hR : (if ex.isEmpty then followFrac R else followExp R) = true) :
    nextToken cls tb inp (ip ++ (fracBytes fp ++ ex) ++ R) = .ok ({ ty := tb.ttNumber, value := ip ++ (fracBytes fp ++ ex) }, R) := by
  obtain ⟨d, ds, rfl, hd, hds⟩ := isDigits_cons hip
  -- the exponent, if any, is read up to `R`; it does not begin like a fraction
  have hZ : numExp inp (ex ++ R) = .ok R ∧ endsRun isDigitR (ex ++ R) = true ∧ (ex.isEmpty = false → (ex ++ R).head? ≠ some 46) := by
    cases ex with
    | nil =>
      cases R with
      | nil => simp [numExp, endsRun]
      | cons s tl =>
        have : (s.toNat < 128 ∧ isDigitB s = false) ∧ s ≠ 101 ∧ s ≠ 69 := by simpa [followFrac, and_assoc] using hR
        simp [numExp, endsRun, isDigitR_toNat, this]
    | cons e t =>
      have hR' : endsRun isDigitR R = true := by
        cases R with
        | nil => rfl
        | cons s tl => simpa [followExp, endsRun, isDigitR_toNat] using hR
      have := numExp_shaped (inp := inp) (e :: t) R (by simpa using hex) hR'
      exact ⟨this.1, this.2.1, fun _ => this.2.2⟩
  -- so is the fraction, if any, up to the exponent
  have hF : numFrac inp (fracBytes fp ++ (ex ++ R)) = .ok (ex ++ R) ∧ endsRun isDigitR (fracBytes fp ++ (ex ++ R)) = true := by
    cases fp with
    | nil => exact ⟨numFrac_other _ (hZ.2.2 (by simp at hne; simpa using hne)), hZ.2.1⟩
    | cons f fs => exact ⟨numFrac_digits (f :: fs) _ (by simpa using hfp) hZ.2.1, rfl⟩
  rw [← List.append_assoc] at hF
  rw [List.append_assoc (d :: ds)]
  exact nextToken_number hA d ds _ R _ hd hds hF.2 hF.1 hZ.1

/-- the operator `o` has the type `ty` in the table, and only that type -/
def OpIs (tb : Tables) (o : Bytes) (ty : Nat) : Prop :=
  (o, ty) ∈ tb.operators ∧ ∀ x ∈ tb.operators, x.1 = o → x.2 = ty

theorem OpIs.lookup {o : Bytes} {ty : Nat} (h : OpIs tb o ty) : lookup tb.operators o = some ty := by
  unfold Lex.lookup
  cases hf : tb.operators.find? (·.1 == o) with
  | none => simpa using List.find?_eq_none.1 hf _ h.1
  | some e => exact congrArg some (h.2 e (List.mem_of_find?_eq_some hf) (by simpa using List.find?_some hf))

theorem OpIs.of_unique {o : Bytes} (h : uniqueOp tb o = true) : ∃ ty, OpIs tb o ty := by
  unfold uniqueOp at h
  split at h
  · rename_i e heq
    -- the entries with key `o` are `e` and nothing else
    have hmem : ∀ x, x ∈ tb.operators ∧ x.1 = o ↔ x = e := fun x => by
      rw [← List.mem_singleton (a := x) (b := e), ← heq, List.mem_filter, beq_iff_eq]
    obtain ⟨he, rfl⟩ := (hmem e).2 rfl
    exact ⟨e.2, he, fun x hx hxo => by rw [(hmem x).1 ⟨hx, hxo⟩]⟩
  · exact absurd h (by simp)

/-- longest match finds `o` itself when no entry of the table goes on with the byte that follows -/
theorem longestOp_follow (ops : List (Bytes × Nat)) (o R : Bytes) (ty : Nat) (hmem : (o, ty) ∈ ops) (hne : o ≠ [])
    (hf : ∀ s ∈ R.head?, ∀ x ∈ ops, (o ++ [s]).isPrefixOf x.1 = false) :
    ∃ x ∈ ops, longestOp ops (o ++ R) = some x ∧ x.1 = o := by
  have hpre : o.isPrefixOf (o ++ R) = true := List.isPrefixOf_iff_prefix.2 (List.prefix_append o R)
  cases hl : longestOp ops (o ++ R) with
  | none =>
    have sp := longestOp_spec ops (o ++ R)
    rw [hl] at sp
    exact absurd (sp (o, ty) hmem hpre) hne
  | some x =>
    obtain ⟨hm, hp, _, hmax⟩ := longestOp_some hl
    refine ⟨x, hm, rfl, ?_⟩
    -- `o` and `x.1` are prefixes of the same text and `x.1` is at least as long: `x.1 = o ++ t`; a non-empty `t` would
    -- begin with the first byte of `R`
    obtain ⟨t, ht⟩ := List.prefix_of_prefix_length_le (List.prefix_append o R) (List.isPrefixOf_iff_prefix.1 hp)
      (hmax (o, ty) hmem hpre hne)
    cases t with
    | nil => simpa using ht.symm
    | cons s t' =>
      have hp' := List.isPrefixOf_iff_prefix.1 hp
      rw [← ht, List.prefix_append_right_inj] at hp'
      obtain ⟨u, rfl⟩ := hp'
      have hpp : (o ++ [s]).isPrefixOf x.1 = true := by
        rw [List.isPrefixOf_iff_prefix, ← ht]; exact ⟨t', by simp⟩
      rw [hf s rfl x hm] at hpp
      exact absurd hpp (by simp)

theorem nextToken_op2 (b : UInt8) (o' R : Bytes) (ty : Nat) (hb : opHeadOK cls b = true) (hty : OpIs tb (b :: o') ty)
    (hf : followOp tb (b :: o') R = true) :
    nextToken cls tb inp ((b :: o') ++ R) = .ok ({ ty := ty, value := b :: o' }, R) := by
  simp only [opHeadOK, Bool.and_eq_true, decide_eq_true_eq, Bool.not_eq_true', bne_iff_ne, and_assoc] at hb
  obtain ⟨h128, hstart, hdig, h34, h96, h39, h36, h64⟩ := hb
  obtain ⟨x, hx, hl, hx1⟩ := longestOp_follow tb.operators (b :: o') R ty hty.1 (by simp) (by
    cases R with
    | nil => simp
    | cons s tl => simpa [followOp] using hf)
  obtain ⟨x1, x2⟩ := x
  obtain rfl : x2 = ty := hty.2 _ hx hx1
  subst hx1
  simp only [List.cons_append] at hl ⊢
  simp [nextToken_ascii cls tb inp b _ h128, hstart, hdig, h34, h96, h39, readPunctuation, h36, h64, hl]

/-! quoted forms: each body function takes one piece in one step, then the closing quote -/

theorem followQuote_next (q : UInt8) (R : Bytes) (h : followQuote q R = true) :
    ∀ n0 r, nextRune R = some (n0, r) → (normalizeQuote n0 == q.toNat) = false := by
  cases R with
  | nil => simp [nextRune]
  | cons s tl =>
    simp only [followQuote, Bool.and_eq_true, decide_eq_true_eq, bne_iff_ne] at h
    simpa [nextRune_ascii s tl h.1, normalizeQuote_ascii s.toNat h.1, UInt8.toNat_inj] using h.2

theorem stringBodyF_piece (p : SP) (hp : p.ok = true) (f : Nat) (X acc : Bytes) :
    stringBodyF inp 39 (f + 1) (p.src ++ X) acc = stringBodyF inp 39 f X (acc ++ p.val) := by
  cases p with
  | ch b =>
    simp only [SP.ok, Bool.and_eq_true, decide_eq_true_eq, bne_iff_ne, and_assoc] at hp
    obtain ⟨h128, h39, h92⟩ := hp
    simp [SP.src, SP.val, stringBodyF, nextRune_ascii b _ h128, normalizeQuote_ascii b.toNat h128, encodeRune_ascii b h128,
      show (b.toNat == 39) = false from toNat_ne h39, show (b.toNat == 92) = false from toNat_ne h92]
  | dq => rfl
  | esc e =>
    -- each of the seven escapes evaluates
    simp only [SP.ok, Bool.or_eq_true, beq_iff_eq] at hp
    rcases hp with (((((rfl | rfl) | rfl) | rfl) | rfl) | rfl) | rfl <;> rfl

theorem stringBodyF_close (R acc : Bytes) (hR : followQuote 39 R = true) (f : Nat) :
    stringBodyF inp 39 (f + 1) (39 :: R) acc = .ok (some (acc, R)) := by
  have hn := followQuote_next 39 R hR
  simp only [stringBodyF, nextRune_ascii 39 R (by decide), show normalizeQuote (39 : UInt8).toNat = 39 from rfl,
    beq_self_eq_true, if_true]
  split
  · rename_i n0 r2 h; simp [show (normalizeQuote n0 == 39) = false from hn n0 r2 h]
  · rfl

theorem SP.src_pos (p : SP) : 0 < p.src.length := by cases p <;> exact Nat.succ_pos _

/-- one unit of fuel per piece, and the reader gives one per byte -/
theorem stringBody_spell : ∀ (ps : List SP) (acc : Bytes) (fuel : Nat) (R : Bytes),
    ps.all SP.ok = true → followQuote 39 R = true → (spSrc ps).length < fuel →
    stringBodyF inp 39 fuel (spSrc ps ++ 39 :: R) acc = .ok (some (acc ++ spVal ps, R))
  | [], acc, f + 1, R, _, hR, _ => by simpa [spSrc, spVal] using stringBodyF_close R acc hR f
  | p :: ps, acc, f + 1, R, hok, hR, hf => by
    simp only [List.all_cons, Bool.and_eq_true] at hok
    have := p.src_pos
    rw [spSrc, List.length_append] at hf
    rw [spSrc, List.append_assoc, stringBodyF_piece p hok.1, stringBody_spell ps _ f R hok.2 hR (by omega), spVal,
      List.append_assoc]

/-- an opening quote followed by an ASCII byte other than that quote opens no triple-quoted string -/
theorem isTriple_ascii {q b : UInt8} (h128 : b.toNat < 128) (hb : b ≠ q) (tl : Bytes) :
    isTriple q.toNat (q :: b :: tl) = false := by
  simp [isTriple, decodeRune_ascii b tl h128, show (b.toNat == q.toNat) = false from toNat_ne hb]

theorem nextToken_str2 (ps : List SP) (R : Bytes)
    (h39 : isIdentStart cls 39 = false) (hok : ps.all SP.ok = true)
    (hnt : noTripleStart ps = true) (hR : followQuote 39 R = true) :
    nextToken cls tb inp (39 :: (spSrc ps ++ [39]) ++ R) = .ok ({ ty := tb.ttSingle, value := spVal ps, quote := 39 }, R) := by
  simp only [List.cons_append, List.append_assoc]
  -- the byte after the opening quote is no quote (in the empty literal `''`: the byte after the closing one), so this is
  -- no triple-quoted string
  have htriple : isTriple 39 (39 :: (spSrc ps ++ 39 :: R)) = false := by
    match ps, hok, hnt with
    | [], _, _ =>
      cases R with
      | nil => rfl
      | cons s tl =>
        simp only [followQuote, Bool.and_eq_true, decide_eq_true_eq, bne_iff_ne] at hR
        simp [isTriple, spSrc, decodeRune_ascii s tl hR.1, show (s.toNat == 39) = false from toNat_ne hR.2]
    | .ch b :: ps', hok, _ =>
      simp only [List.all_cons, SP.ok, Bool.and_eq_true, decide_eq_true_eq, bne_iff_ne] at hok
      exact isTriple_ascii hok.1.1.1 hok.1.1.2 _
    | .esc e :: ps', _, _ => exact isTriple_ascii (b := 92) (by decide) (by decide) _
  have hbody := stringBody_spell (inp := inp) ps [] (spSrc ps ++ 39 :: R).length R hok hR (by
    simp only [List.length_append, List.length_cons]; omega)
  simp only [nextToken_squote h39, readQuotedString, nextRune_ascii 39 _ (by decide), UInt8.reduceToNat, htriple, hbody,
    Bool.false_eq_true, if_false, show normalizeQuote 39 = 39 from rfl, show isStringQuoteStart 39 = true from rfl, if_true,
    List.nil_append]

theorem quotedIdentF_piece (p : QP) (hp : p.ok = true) (f : Nat) (X acc : Bytes) :
    quotedIdentF 34 (f + 1) (p.src ++ X) acc = quotedIdentF 34 f X (acc ++ p.val) := by
  cases p with
  | ch b =>
    simp only [QP.ok, Bool.and_eq_true, decide_eq_true_eq, bne_iff_ne, and_assoc] at hp
    obtain ⟨h128, h34, h10⟩ := hp
    simp [QP.src, QP.val, quotedIdentF, nextRune_ascii b _ h128, normalizeQuote_ascii b.toNat h128, encodeRune_ascii b h128,
      show (b.toNat == 34) = false from toNat_ne h34, show (b.toNat == 10) = false from toNat_ne h10]
  | dq => rfl

theorem quotedIdentF_close (R acc : Bytes) (hR : followQuote 34 R = true) (f : Nat) :
    quotedIdentF 34 (f + 1) (34 :: R) acc = .inl (some (acc, R)) := by
  have hn := followQuote_next 34 R hR
  simp only [quotedIdentF, nextRune_ascii 34 R (by decide), UInt8.reduceToNat, show normalizeQuote 34 = 34 from rfl,
    beq_self_eq_true, if_true]
  split
  · rename_i n0 r2 h; simp [show (normalizeQuote n0 == 34) = false from hn n0 r2 h]
  · rfl

theorem QP.src_pos (p : QP) : 0 < p.src.length := by cases p <;> exact Nat.succ_pos _

theorem quotedIdent_spell : ∀ (qs : List QP) (acc : Bytes) (fuel : Nat) (R : Bytes),
    qs.all QP.ok = true → followQuote 34 R = true → (qpSrc qs).length < fuel →
    quotedIdentF 34 fuel (qpSrc qs ++ 34 :: R) acc = .inl (some (acc ++ qpVal qs, R))
  | [], acc, f + 1, R, _, hR, _ => by simpa [qpSrc, qpVal] using quotedIdentF_close R acc hR f
  | p :: qs, acc, f + 1, R, hok, hR, hf => by
    simp only [List.all_cons, Bool.and_eq_true] at hok
    have := p.src_pos
    rw [qpSrc, List.length_append] at hf
    rw [qpSrc, List.append_assoc, quotedIdentF_piece p hok.1, quotedIdent_spell qs _ f R hok.2 hR (by omega), qpVal,
      List.append_assoc]

theorem nextToken_qid2 (qs : List QP) (R : Bytes)
    (h34 : isIdentStart cls 34 = false) (hok : qs.all QP.ok = true) (hR : followQuote 34 R = true) :
    nextToken cls tb inp (34 :: (qpSrc qs ++ [34]) ++ R) = .ok ({ ty := tb.ttDouble, value := qpVal qs, quote := 34 }, R) := by
  simp only [List.cons_append, List.append_assoc]
  have hbody := quotedIdent_spell qs [] (qpSrc qs ++ 34 :: R).length R hok hR (by
    simp only [List.length_append, List.length_cons]; omega)
  simp only [nextToken_dquote h34, readQuotedIdentifier, nextRune_ascii 34 _ (by decide), UInt8.reduceToNat,
    show normalizeQuote 34 = 34 from rfl, hbody, List.nil_append]

theorem backtickF_piece (p : BP) (hp : p.ok = true) (X acc : Bytes) :
    backtickF (p.src ++ X) acc = backtickF X (acc ++ p.val) := by
  cases p with
  | ch b =>
    have hb : (b == 96) = false := by simpa [BP.ok] using hp
    rw [backtickF.eq_def]; simp [BP.src, BP.val, hb]
  | dq => rw [backtickF.eq_def]; simp [BP.src, BP.val]

theorem backtick_spell : ∀ (bs : List BP) (acc R : Bytes), bs.all BP.ok = true → (R.head? != some 96) = true →
    backtickF (bpSrc bs ++ 96 :: R) acc = some (acc ++ bpVal bs, R)
  | [], acc, R, _, hR => by
    cases R with
    | nil => simp [bpSrc, bpVal, backtickF]
    | cons s tl => simp [bpSrc, bpVal, backtickF, show (s == 96) = false by simpa using hR]
  | p :: bs, acc, R, hok, hR => by
    simp only [List.all_cons, Bool.and_eq_true] at hok
    rw [bpSrc, List.append_assoc, backtickF_piece p hok.1, backtick_spell bs _ R hok.2 hR, bpVal, List.append_assoc]

theorem nextToken_bq2 (bs : List BP) (R : Bytes)
    (h96 : isIdentStart cls 96 = false) (hok : bs.all BP.ok = true) (hR : (R.head? != some 96) = true) :
    nextToken cls tb inp (96 :: (bpSrc bs ++ [96]) ++ R) = .ok ({ ty := tb.ttIdentifier, value := bpVal bs }, R) := by
  simp only [List.cons_append, List.append_assoc]
  simp only [nextToken_backtick h96, readBacktick, List.drop_succ_cons, List.drop_zero, backtick_spell bs [] R hok hR,
    List.nil_append]

/-- `nextToken` reads the bytes `L` in front of `R` whole, as a token of type and value `k` -/
def Reads (cls : CharClass) (tb : Tables) (L : Bytes) (k : Nat × Bytes) (R : Bytes) : Prop :=
  L ≠ [] ∧ ∀ inp, ∃ t, nextToken cls tb inp (L ++ R) = .ok (t, R) ∧ t.key = k

/-- a well-formed lexeme, followed by bytes that neither extend it nor change its reading, is read whole -/
theorem Lx.reads (hA : AsciiOK cls) (l : Lx) (R : Bytes) (hok : l.ok cls tb = true) (hR : l.follow cls tb R = true) :
    Reads cls tb l.bytes (l.key cls tb) R := by
  cases l with
  | word w =>
    match w, hok with
    | c :: cs, hok =>
      simp only [Lx.ok, Lx.follow, Bool.and_eq_true] at hok hR
      exact ⟨by simp [Lx.bytes], fun _ => ⟨_, nextToken_word2 hA c cs R hok.1 hok.2 hR.1 hR.2, rfl⟩⟩
  | compound w1 ws w2 =>
    simp only [Lx.ok, Bool.and_eq_true, and_assoc] at hok
    obtain ⟨h1, h2, hne, hws, hstart, hsome⟩ := hok
    match w1, w2, h1, h2 with
    | c :: cs, c2 :: cs2, h1, h2 =>
      simp only [isWordShaped, Bool.and_eq_true] at h1 h2
      obtain ⟨cty, hcty⟩ := Option.isSome_iff_exists.1 hsome
      exact ⟨by simp [Lx.bytes], fun _ => ⟨_, nextToken_compound2 hA c cs ws c2 cs2 R cty h1.1 h1.2 h2.1 h2.2
        (by rintro rfl; simp at hne) hws hstart hcty hR, by simp only [Lx.key, hcty]; rfl⟩⟩
  | int ds =>
    match ds, hok with
    | d :: ds', hok =>
      simp only [Lx.ok, Bool.and_eq_true] at hok
      exact ⟨by simp [Lx.bytes], fun _ => ⟨_, nextToken_int2 hA d ds' R hok.1 hok.2 hR, rfl⟩⟩
  | num ip fp ex =>
    simp only [Lx.ok, Bool.and_eq_true, Bool.not_eq_true', and_assoc] at hok
    obtain ⟨hip, hfp, hex, hne⟩ := hok
    refine ⟨?_, fun _ => ⟨_, nextToken_num2 hA ip fp ex R hip hfp hex hne (by cases ex <;> exact hR), rfl⟩⟩
    obtain ⟨d, ds, rfl, _⟩ := isDigits_cons hip
    simp [Lx.bytes]
  | op o =>
    match o, hok with
    | b :: o', hok =>
      simp only [Lx.ok, Bool.and_eq_true] at hok
      obtain ⟨ty, hty⟩ := OpIs.of_unique hok.2
      exact ⟨by simp [Lx.bytes], fun _ => ⟨_, nextToken_op2 b o' R ty hok.1 hty hR, by simp [Lx.key, hty.lookup, Tok.key]⟩⟩
  | str ps =>
    simp only [Lx.ok, Bool.and_eq_true, Bool.not_eq_true', and_assoc] at hok
    exact ⟨by simp [Lx.bytes], fun _ => ⟨_, nextToken_str2 ps R hok.1 hok.2.1 hok.2.2 hR, rfl⟩⟩
  | qid qs =>
    simp only [Lx.ok, Bool.and_eq_true, Bool.not_eq_true'] at hok
    exact ⟨by simp [Lx.bytes], fun _ => ⟨_, nextToken_qid2 qs R hok.1 hok.2 hR, rfl⟩⟩
  | bq bs =>
    simp only [Lx.ok, Bool.and_eq_true, Bool.not_eq_true'] at hok
    exact ⟨by simp [Lx.bytes], fun _ => ⟨_, nextToken_bq2 bs R hok.1 hok.2 hR, rfl⟩⟩

end GoSQLXModel.Lex
