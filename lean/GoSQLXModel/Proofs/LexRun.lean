import GoSQLXModel.Proofs.LexProgress
/-!
# The main loop as a chain of steps

`lexLoop` threads fuel and the reversed token list (whose length the token limit is tested on) through its recursion.
`Run` is the same computation without them: which tokens are read between two states of the loop.  `lexLoop_of_run` says the loop follows
a run, `run_of_lexLoop_ok` that every accepted result comes from one; the invariants of the loop are rule inductions on `Run`.
-/
namespace GoSQLXModel.Lex
variable {cls : CharClass} {tb : Tables} {inp : Bytes}

abbrev eofTok (inp : Bytes) : Tok := { ty := 0, value := [], startOff := inp.length, endOff := inp.length }

/-- the loop after its skip of trivia has arrived at `r1` -/
def lexHead (cls : CharClass) (tb : Tables) (inp : Bytes) (fuel : Nat) (r1 : Bytes) (toks : List Tok) (cs1 : List Comment) :
    Result :=
  match r1 with
  | [] => .ok (toks.reverse ++ [eofTok inp]) cs1
  | _ =>
    if toks.length ≥ tb.maxTokens then .err ⟨"E1007", .at (inp.length - r1.length)⟩
    else
      match nextToken cls tb inp r1 with
      | .error e => .err e
      | .ok (t, r2) =>
        lexLoop cls tb inp fuel r2
          ({ t with startOff := inp.length - r1.length, endOff := inp.length - r2.length } :: toks) cs1

theorem lexLoop_succ (fuel : Nat) (rest : Bytes) (toks : List Tok) (cs : List Comment) :
    lexLoop cls tb inp (fuel + 1) rest toks cs =
      lexHead cls tb inp fuel (skipTriviaF inp (rest.length + 1) rest cs).1 toks (skipTriviaF inp (rest.length + 1) rest cs).2 := rfl

theorem lexHead_limit {r1 : Bytes} (fuel : Nat) {toks : List Tok} (cs1 : List Comment) (hne : r1 ≠ [])
    (hlim : toks.length ≥ tb.maxTokens) :
    lexHead cls tb inp fuel r1 toks cs1 = .err ⟨"E1007", .at (inp.length - r1.length)⟩ := by
  obtain ⟨b, tl, rfl⟩ := List.exists_cons_of_ne_nil hne
  simp only [lexHead, hlim, if_true]

theorem lexHead_err {r1 : Bytes} (fuel : Nat) {toks : List Tok} (cs1 : List Comment) {e : LexErr} (hne : r1 ≠ [])
    (hlim : toks.length < tb.maxTokens) (hn : nextToken cls tb inp r1 = .error e) :
    lexHead cls tb inp fuel r1 toks cs1 = .err e := by
  obtain ⟨b, tl, rfl⟩ := List.exists_cons_of_ne_nil hne
  simp only [lexHead, Nat.not_le.2 hlim, if_false, hn]

theorem lexHead_tok {r1 : Bytes} (fuel : Nat) {toks : List Tok} (cs1 : List Comment) {t : Tok} {r2 : Bytes} (hne : r1 ≠ [])
    (hlim : toks.length < tb.maxTokens) (hn : nextToken cls tb inp r1 = .ok (t, r2)) :
    lexHead cls tb inp fuel r1 toks cs1 = lexLoop cls tb inp fuel r2
      ({ t with startOff := inp.length - r1.length, endOff := inp.length - r2.length } :: toks) cs1 := by
  obtain ⟨b, tl, rfl⟩ := List.exists_cons_of_ne_nil hne
  simp only [lexHead, Nat.not_le.2 hlim, if_false, hn]

theorem lexLoop_total (cls : CharClass) (tb : Tables) (inp : Bytes) : ∀ (fuel : Nat) (rest : Bytes) (toks : List Tok)
    (cs : List Comment), rest.length < fuel → lexLoop cls tb inp fuel rest toks cs ≠ .outOfFuel
  | 0, _, _, _, h => by omega
  | fuel+1, rest, toks, cs, h => by
    rw [lexLoop_succ]
    have hs := (skipTriviaF_suffix inp (rest.length + 1) rest cs).length_le
    generalize skipTriviaF inp (rest.length + 1) rest cs = st at hs
    obtain ⟨r1, cs1⟩ := st
    by_cases hne : r1 = []
    · subst hne; nofun
    · by_cases hlim : toks.length < tb.maxTokens
      · cases hn : nextToken cls tb inp r1 with
        | error e => rw [lexHead_err _ _ hne hlim hn]; nofun
        | ok x =>
          rw [lexHead_tok _ _ hne hlim hn]
          have := nextToken_progress cls tb inp hne hn
          exact lexLoop_total cls tb inp fuel _ _ _ (by simp only at hs; omega)
      · rw [lexHead_limit _ _ hne (Nat.not_lt.1 hlim)]; nofun

/-- **C01 (tokenizer)**: for every classifier, every table and every byte string the tokenizer model returns tokens
    or an error — it cannot loop -/
theorem tokenize_total (cls : CharClass) (tb : Tables) (inp : Bytes) : tokenize cls tb inp ≠ .outOfFuel := by
  unfold tokenize
  split
  · nofun
  · exact lexLoop_total cls tb inp _ _ _ _ (Nat.lt_succ_self _)

/-- from the loop state `(rest, cs)` the tokens `ts` are read, and the skip of trivia after the last of them arrives
    at `r'` (the start of a further token, or the end of the input) with comments `cs'` -/
inductive Run (cls : CharClass) (tb : Tables) (inp : Bytes) : Bytes → List Comment → List Tok → Bytes → List Comment → Prop
  | stop {rest cs r1 cs1} : skipTriviaF inp (rest.length + 1) rest cs = (r1, cs1) → Run cls tb inp rest cs [] r1 cs1
  | tok {rest cs r1 cs1 t r2 ts r' cs'} : skipTriviaF inp (rest.length + 1) rest cs = (r1, cs1) → r1 ≠ [] →
      nextToken cls tb inp r1 = .ok (t, r2) → Run cls tb inp r2 cs1 ts r' cs' →
      Run cls tb inp rest cs ({ t with startOff := inp.length - r1.length, endOff := inp.length - r2.length } :: ts) r' cs'

/-- the loop follows a run, as long as the token limit is not met on the way -/
theorem lexLoop_of_run {rest cs ts r' cs'} (h : Run cls tb inp rest cs ts r' cs') (acc : List Tok) (fuel : Nat)
    (hlim : acc.length + ts.length ≤ tb.maxTokens) :
    lexLoop cls tb inp (fuel + ts.length + 1) rest acc cs = lexHead cls tb inp fuel r' (ts.reverse ++ acc) cs' := by
  induction h generalizing acc with
  | stop hs => exact (lexLoop_succ ..).trans (by rw [hs]; rfl)
  | tok hs hne hn _ ih =>
    simp only [List.length_cons] at hlim
    refine (lexLoop_succ ..).trans ?_
    rw [hs, lexHead_tok _ _ hne (by omega) hn]
    refine (ih _ (by simp only [List.length_cons]; omega)).trans ?_
    rw [List.reverse_cons, List.append_assoc, List.singleton_append]

/-- every accepted result of the loop comes from a run that ends at the end of the input; the limit was met by none
    of its tokens.  The bound is `max acc.length …` because the limit is tested only before a token is read: an
    accumulator already over it is accepted when nothing follows but trivia. -/
theorem run_of_lexLoop_ok : ∀ (fuel : Nat) (rest : Bytes) (acc : List Tok) (cs : List Comment) {toks : List Tok} {cms : List Comment},
    lexLoop cls tb inp fuel rest acc cs = .ok toks cms →
    ∃ ts, Run cls tb inp rest cs ts [] cms ∧ toks = acc.reverse ++ ts ++ [eofTok inp] ∧
      acc.length + ts.length ≤ max acc.length tb.maxTokens
  | 0, _, _, _, _, _, h => by cases h
  | fuel + 1, rest, acc, cs, toks, cms, h => by
    rw [lexLoop_succ] at h
    generalize hs : skipTriviaF inp (rest.length + 1) rest cs = st at h
    obtain ⟨r1, cs1⟩ := st
    by_cases hne : r1 = []
    · subst hne; cases h; exact ⟨[], .stop hs, by simp, Nat.le_max_left ..⟩
    · by_cases hlim : acc.length < tb.maxTokens
      · cases hn : nextToken cls tb inp r1 with
        | error e => rw [lexHead_err _ _ hne hlim hn] at h; cases h
        | ok x =>
          rw [lexHead_tok _ _ hne hlim hn] at h
          obtain ⟨ts, hr, rfl, hle⟩ := run_of_lexLoop_ok fuel _ _ _ h
          exact ⟨_, .tok hs hne hn hr, by simp, by simp only [List.length_cons] at hle ⊢; omega⟩
      · rw [lexHead_limit _ _ hne (Nat.not_lt.1 hlim)] at h; cases h

theorem run_of_tokenize_ok {toks : List Tok} {cms : List Comment} (h : tokenize cls tb inp = .ok toks cms) :
    ∃ ts, Run cls tb inp inp [] ts [] cms ∧ toks = ts ++ [eofTok inp] ∧ ts.length ≤ tb.maxTokens := by
  unfold tokenize at h
  split at h
  · cases h
  · simpa using run_of_lexLoop_ok _ inp [] [] h

/-- every token of a run costs at least one byte, and the skips hand nothing back -/
theorem Run.length_le {rest cs ts r' cs'} (h : Run cls tb inp rest cs ts r' cs') : ts.length + r'.length ≤ rest.length := by
  induction h with
  | @stop rest cs _ _ hs => simpa [hs] using (skipTriviaF_suffix inp (rest.length + 1) rest cs).length_le
  | @tok rest cs _ _ _ _ _ _ _ hs hne hn _ ih =>
    have := (skipTriviaF_suffix inp (rest.length + 1) rest cs).length_le
    have := nextToken_progress cls tb inp hne hn
    simp only [hs, List.length_cons] at *
    omega

/-- **at most one token per byte, plus the end marker**: the output-size half of the linear-cost argument of C20 -/
theorem tokens_le_bytes (cls : CharClass) (tb : Tables) (inp : Bytes) (out : List Tok) (cms : List Comment)
    (h : tokenize cls tb inp = .ok out cms) : out.length ≤ inp.length + 1 := by
  obtain ⟨ts, hrun, rfl, _⟩ := run_of_tokenize_ok h
  simpa using hrun.length_le

/-- **the token limit**: an accepted run returns at most `maxTokens` tokens and the end marker — the count runs over the
    whole input (a bound per statement would not give this) -/
theorem tokenize_bounded (cls : CharClass) (tb : Tables) (inp : Bytes) (out : List Tok) (cms : List Comment)
    (h : tokenize cls tb inp = .ok out cms) : out.length ≤ tb.maxTokens + 1 := by
  obtain ⟨ts, _, rfl, hle⟩ := run_of_tokenize_ok h
  simpa using hle

theorem tokenize_of_run {ts r' cs'} (h : Run cls tb inp inp [] ts r' cs') (hsize : inp.length ≤ tb.maxInput)
    (hlim : ts.length ≤ tb.maxTokens) :
    tokenize cls tb inp = lexHead cls tb inp (inp.length - ts.length) r' ts.reverse cs' := by
  have := h.length_le
  rw [tokenize, if_neg (Nat.not_lt.2 hsize), show inp.length + 1 = inp.length - ts.length + ts.length + 1 by omega,
    lexLoop_of_run h [] _ (by simpa using hlim), List.append_nil]

end GoSQLXModel.Lex
