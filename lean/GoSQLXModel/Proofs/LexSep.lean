import GoSQLXModel.Proofs.LexAscii
/-!
# Separators are skipped whole

`skipTriviaF_sep`: the trivia loop takes a well-formed separator in front of a place where it stops, and captures exactly
the separator's comments, in order, each with its text, kind and place.
-/
namespace GoSQLXModel.Lex

theorem afterLine_body (body Y : Bytes) (h : body.all (· != 10) = true) : afterLine (body ++ 10 :: Y) = Y := by
  induction body with
  | nil => rfl
  | cons b bs ih =>
    simp only [List.all_cons, Bool.and_eq_true] at h
    rw [List.cons_append, afterLine, if_neg (by simpa using h.1), ih h.2]

theorem afterBlock_body (body Y : Bytes) (h : hasClose body = false) : afterBlock (body ++ 42 :: 47 :: Y) = Y := by
  induction body with
  | nil => rfl
  | cons a t ih =>
    cases t with
    | nil => simp [afterBlock]
    | cons b t' =>
      simp only [hasClose, Bool.or_eq_false_iff] at h
      simp only [List.cons_append, afterBlock, h.1, Bool.false_eq_true]
      exact ih h.2

theorem skipTriviaF_ws (inp : Bytes) (fuel : Nat) (ws X : Bytes) (cs : List Comment) (h : ws.all isWS = true) :
    skipTriviaF inp fuel (ws ++ X) cs = skipTriviaF inp fuel X cs := by
  cases fuel <;> simp only [skipTriviaF, List.dropWhile_append_of_pos (List.all_eq_true.1 h)]

theorem skipTriviaF_stop (inp : Bytes) (fuel : Nat) (X : Bytes) (cs : List Comment) (h : stopB X = true) :
    skipTriviaF inp fuel X cs = (X, cs) := by
  have hd : X.dropWhile isWS = X := by
    cases X with
    | nil => rfl
    | cons b tl => simp only [stopB, Bool.and_eq_true, Bool.not_eq_true'] at h; simp [h.1.1]
  cases fuel with
  | zero => rw [skipTriviaF, hd]
  | succ f =>
    rw [skipTriviaF]
    simp only [hd]
    match X, h with
    | b :: c :: tl, h =>
      simp only [stopB, List.head?_cons, Option.some_beq_some, Bool.and_eq_true, Bool.not_eq_true'] at h
      simp only [h.1.2, h.2, Bool.false_eq_true, if_false]
    | [_], _ | [], _ => rfl

/-- a line comment is taken in one step, as the comment the grammar says: the text stops before the newline, the span
    includes it.  (Stated on `p.bytes ++ Y` as it unfolds, so that `skipTriviaF_piece` can use it as it is.) -/
theorem skipTriviaF_line (inp : Bytes) (f : Nat) (body Y : Bytes) (cs : List Comment) (h : body.all (· != 10) = true) :
    skipTriviaF inp (f + 1) (45 :: 45 :: (body ++ [10]) ++ Y) cs =
      skipTriviaF inp f Y (cs ++ [
        { text := 45 :: 45 :: body, block := false,
          startOff := inp.length - (45 :: 45 :: (body ++ [10]) ++ Y).length, endOff := inp.length - Y.length,
          inline := codeBefore inp (inp.length - (45 :: 45 :: (body ++ [10]) ++ Y).length) }]) := by
  -- the right side as a concatenation, for `getLast?_concat` and `dropLast_concat`
  have hcons : consumed (45 :: 45 :: (body ++ 10 :: Y)) Y = (45 :: 45 :: body) ++ [10] := by
    have := consumed_append ((45 :: 45 :: body) ++ [10]) Y
    rwa [List.append_assoc] at this
  simp only [List.cons_append, List.append_assoc, List.nil_append]
  simp only [skipTriviaF, List.dropWhile, show isWS 45 = false from rfl, afterLine_body body Y h, hcons,
    List.getLast?_concat, List.dropLast_concat, beq_self_eq_true, Bool.and_self, if_true]

theorem skipTriviaF_block (inp : Bytes) (f : Nat) (body Y : Bytes) (cs : List Comment) (h : hasClose body = false) :
    skipTriviaF inp (f + 1) (47 :: 42 :: (body ++ [42, 47]) ++ Y) cs =
      skipTriviaF inp f Y (cs ++ [
        { text := 47 :: 42 :: (body ++ [42, 47]), block := true,
          startOff := inp.length - (47 :: 42 :: (body ++ [42, 47]) ++ Y).length, endOff := inp.length - Y.length,
          inline := codeBefore inp (inp.length - (47 :: 42 :: (body ++ [42, 47]) ++ Y).length) }]) := by
  have hcons : consumed (47 :: 42 :: (body ++ 42 :: 47 :: Y)) Y = 47 :: 42 :: (body ++ [42, 47]) := by
    have := consumed_append (47 :: 42 :: (body ++ [42, 47])) Y
    rwa [List.cons_append, List.cons_append, List.append_assoc] at this
  simp [skipTriviaF, show isWS 47 = false from rfl, afterBlock_body body Y h, hcons]

theorem sepSpans_cons (off : Nat) (p : Piece) (ps : List Piece) :
    sepSpans off (p :: ps) = p.comments.map (fun _ => (off, off + p.bytes.length)) ++ sepSpans (off + p.bytes.length) ps := by
  cases p <;> rfl

theorem offset_eq {inp pre X : Bytes} (h : inp = pre ++ X) : inp.length - X.length = pre.length := by
  rw [h, List.length_append, Nat.add_sub_cancel]

/-- one piece of a separator is taken by the trivia loop — a comment in one step, blanks in none -/
theorem skipTriviaF_piece (inp : Bytes) (p : Piece) (hp : p.ok = true) (f : Nat) (Y : Bytes) (cs : List Comment) :
    ∃ cp, skipTriviaF inp (f + p.comments.length) (p.bytes ++ Y) cs = skipTriviaF inp f Y (cs ++ cp) ∧
      cp.map Comment.key = p.comments ∧
      cp.map Comment.span = p.comments.map fun _ => (inp.length - (p.bytes ++ Y).length, inp.length - Y.length) := by
  cases p with
  | blanks ws => exact ⟨[], (skipTriviaF_ws inp f ws Y cs hp).trans (by rw [List.append_nil]), rfl, rfl⟩
  | line body => exact ⟨[_], skipTriviaF_line inp f body Y cs hp, rfl, rfl⟩
  | block body => exact ⟨[_], skipTriviaF_block inp f body Y cs (by simpa [Piece.ok] using hp), rfl, rfl⟩

theorem Piece.comments_le (p : Piece) : p.comments.length ≤ p.bytes.length := by
  cases p <;> simp [Piece.comments, Piece.bytes]

/-- a separator is skipped whole, and its comments — exactly those — are captured in order (one unit of fuel per comment,
    and the loop gives one per byte) -/
theorem skipTriviaF_sep (inp : Bytes) : ∀ (ps : List Piece) (fuel : Nat) (X : Bytes) (cs : List Comment) (pre : Bytes),
    inp = pre ++ (sepBytes ps ++ X) →
    ps.all Piece.ok = true → stopB X = true → (sepBytes ps).length ≤ fuel →
    ∃ cs', skipTriviaF inp fuel (sepBytes ps ++ X) cs = (X, cs') ∧ cs'.map Comment.key = cs.map Comment.key ++ sepComments ps ∧
      cs'.map Comment.span = cs.map Comment.span ++ sepSpans pre.length ps
  | [], fuel, X, cs, pre, _, _, hX, _ => ⟨cs, skipTriviaF_stop inp fuel X cs hX, by simp [sepComments], by simp [sepSpans]⟩
  | p :: ps, fuel, X, cs, pre, hinp, hok, hX, hf => by
    simp only [List.all_cons, Bool.and_eq_true] at hok
    rw [sepBytes, List.append_assoc] at hinp ⊢
    rw [sepBytes, List.length_append] at hf
    have := p.comments_le
    obtain ⟨f, rfl⟩ : ∃ f, fuel = f + p.comments.length := ⟨fuel - p.comments.length, by omega⟩
    obtain ⟨cp, hstep, hk, hs⟩ := skipTriviaF_piece inp p hok.1 f (sepBytes ps ++ X) cs
    have hinp2 : inp = (pre ++ p.bytes) ++ (sepBytes ps ++ X) := by rw [hinp, List.append_assoc]
    obtain ⟨cs', h1, h2, h3⟩ := skipTriviaF_sep inp ps f X (cs ++ cp) _ hinp2 hok.2 hX (by omega)
    rw [offset_eq hinp, offset_eq hinp2] at hs
    exact ⟨cs', hstep.trans h1, by simp [h2, hk, sepComments], by simp [h3, hs, sepSpans_cons]⟩

end GoSQLXModel.Lex
