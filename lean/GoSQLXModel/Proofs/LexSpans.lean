import GoSQLXModel.Proofs.LexRun
/-!
# Token spans: ordered, inside the input, starting at a non-blank byte; `locOf` is monotone and 1-based
-/
namespace GoSQLXModel.Lex
variable {cls : CharClass} {tb : Tables} {inp : Bytes}

/-- spans in stream order: each starts at or after the end of the previous one and does not end before it starts -/
def SpansFrom : Nat → List Tok → Prop
  | _, [] => True
  | lo, t :: ts => lo ≤ t.startOff ∧ t.startOff ≤ t.endOff ∧ SpansFrom t.endOff ts

def lastEnd (lo : Nat) : List Tok → Nat
  | [] => lo
  | t :: ts => lastEnd t.endOff ts

theorem spansFrom_append (lo : Nat) (xs : List Tok) (t : Tok) :
    SpansFrom lo (xs ++ [t]) ↔ SpansFrom lo xs ∧ lastEnd lo xs ≤ t.startOff ∧ t.startOff ≤ t.endOff := by
  induction xs generalizing lo with
  | nil => simp [SpansFrom, lastEnd]
  | cons x xs ih => simp only [List.cons_append, SpansFrom, lastEnd, ih, and_assoc]

theorem lastEnd_append (lo : Nat) (xs : List Tok) (t : Tok) : lastEnd lo (xs ++ [t]) = t.endOff := by
  induction xs generalizing lo with
  | nil => rfl
  | cons x xs ih => exact ih _

theorem Run.spans {rest cs ts r' cs'} (h : Run cls tb inp rest cs ts r' cs') (hr : rest.length ≤ inp.length) :
    SpansFrom (inp.length - rest.length) ts ∧ lastEnd (inp.length - rest.length) ts ≤ inp.length - r'.length := by
  induction h with
  | @stop rest cs _ _ hs =>
    have := (skipTriviaF_suffix inp (rest.length + 1) rest cs).length_le
    simp only [hs] at this
    exact ⟨trivial, by simp only [lastEnd]; omega⟩
  | @tok rest cs _ _ _ _ _ _ _ hs hne hn _ ih =>
    have hle := (skipTriviaF_suffix inp (rest.length + 1) rest cs).length_le
    have := nextToken_progress cls tb inp hne hn
    simp only [hs] at hle
    obtain ⟨ih1, ih2⟩ := ih (by omega)
    exact ⟨⟨by simp only; omega, by simp only; omega, ih1⟩, ih2⟩

/-- **C05 (ordering, containment)**: the token spans of every accepted input are in stream order, never overlap,
    and the end-of-input marker sits at the end of the input -/
theorem tokenize_spans (cls : CharClass) (tb : Tables) (inp : Bytes) (toks : List Tok) (cms : List Comment)
    (h : tokenize cls tb inp = .ok toks cms) : SpansFrom 0 toks ∧ lastEnd 0 toks = inp.length := by
  obtain ⟨ts, hrun, rfl, _⟩ := run_of_tokenize_ok h
  have := hrun.spans (Nat.le_refl _)
  simp only [Nat.sub_self, List.length_nil, Nat.sub_zero] at this
  exact ⟨(spansFrom_append ..).2 ⟨this.1, this.2, Nat.le_refl _⟩, lastEnd_append ..⟩

theorem dropWhile_head_not {α} (p : α → Bool) (l : List α) (b : α) (tl : List α) (h : l.dropWhile p = b :: tl) :
    p b = false := by
  have := List.head?_dropWhile_not p l
  rwa [h] at this

/-- a token never starts at a blank: trivia skipping stops at a non-blank byte -/
theorem skipTriviaF_head (inp : Bytes) : ∀ (fuel : Nat) (rest : Bytes) (cs : List Comment) (b : UInt8) (tl : Bytes),
    (skipTriviaF inp fuel rest cs).1 = b :: tl → isWS b = false := by
  intro fuel rest cs b tl h
  fun_induction skipTriviaF inp fuel rest cs
  case case2 ih | case3 ih => exact ih h
  all_goals exact dropWhile_head_not isWS _ b tl h

theorem locOf_one_based (inp : Bytes) (off : Nat) : 1 ≤ (locOf inp off).1 ∧ 1 ≤ (locOf inp off).2 := by
  unfold locOf; constructor <;> simp only <;> omega

/-- on a tab-free line the column is the byte distance from the line start plus one -/
theorem locOf_col_tabfree (inp : Bytes) (off : Nat)
    (h : ∀ b ∈ (inp.take off).reverse.takeWhile (· != 10), b ≠ 9) :
    (locOf inp off).2 = 1 + ((inp.take off).reverse.takeWhile (· != 10)).length := by
  unfold locOf
  simp only
  congr 1
  generalize (inp.take off).reverse.takeWhile (· != 10) = l at h
  induction l with
  | nil => rfl
  | cons b bs ih =>
    have hb : b ≠ 9 := h b (by simp)
    have : (b == 9) = false := by simpa using hb
    simp only [List.map_cons, List.sum_cons, this]
    rw [ih (fun x hx => h x (List.mem_cons_of_mem _ hx))]
    simp; omega

theorem locOf_line_mono (inp : Bytes) {i j : Nat} (h : i ≤ j) : (locOf inp i).1 ≤ (locOf inp j).1 := by
  obtain ⟨k, rfl⟩ := Nat.exists_eq_add_of_le h
  simp only [locOf, List.take_add, List.filter_append, List.length_append]
  omega

theorem locOf_col_mono (inp : Bytes) {i j : Nat} (h : i ≤ j) (hsame : (locOf inp i).1 = (locOf inp j).1) :
    (locOf inp i).2 ≤ (locOf inp j).2 := by
  obtain ⟨k, rfl⟩ := Nat.exists_eq_add_of_le h
  simp only [locOf, List.take_add, List.filter_append, List.length_append] at hsame ⊢
  -- no line feed between the two offsets, so the later line-so-far is the earlier one and what lies between
  have hmid : ∀ b ∈ ((inp.drop i).take k).reverse, (b != 10) = true := by
    intro b hb
    have : (((inp.drop i).take k).filter (· == 10)).length = 0 := by omega
    simpa using List.filter_eq_nil_iff.1 (List.length_eq_zero_iff.1 this) b (List.mem_reverse.1 hb)
  rw [List.reverse_append, List.takeWhile_append_of_pos hmid]
  simp only [List.map_append, List.sum_append]
  omega

end GoSQLXModel.Lex
