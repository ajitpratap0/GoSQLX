import GoSQLXModel.Proofs.LexSpell2
/-!
# A first surface: words, integers and `( ) , ;` between blank runs

ASCII words (`[A-Za-z_][A-Za-z0-9_]*`; a keyword when the keyword table says so, else an identifier; not the first word
of a compound keyword), unsigned integers (`[0-9]+`) and the punctuation `( ) , ;`, each followed by a non-empty run of
blanks (space, tab, CR, LF) — *any* run.  `PunctOK` (no operator of the table other than the byte itself starts with one
of the four bytes) is a decidable fact discharged for the regenerated tables in Props/C04.

A `Lexeme` is an `Lx`, a blank run the separator `[.blanks ws]`, so `tokenize_spell` is a case of `run_items`.  The join is
`SeqReads` and not `seqOK`: `PunctOK` allows duplicate entries in the operator table, `uniqueOp` (inside `Lx.ok`) does not;
reading an operator needs only `OpIs`, which both give.
-/
namespace GoSQLXModel.Lex

/-- the only operator of the table that starts with the byte `p` is `p` itself, with type `ty` -/
def PunctOK (tb : Tables) (p : UInt8) (ty : Nat) : Prop :=
  ([p], ty) ∈ tb.operators ∧ ∀ o ∈ tb.operators, o.1.head? = some p → o = ([p], ty)

inductive Lexeme where
  | word (w : Bytes)
  | int (ds : Bytes)
  | punct (p : UInt8)

def Lexeme.bytes : Lexeme → Bytes
  | .word w => w
  | .int ds => ds
  | .punct p => [p]

def Lexeme.ok (cls : CharClass) (tb : Tables) : Lexeme → Prop
  | .word w => ∃ c cs, w = c :: cs ∧ isWordStartB c = true ∧ (∀ x ∈ cs, isWordCharB x = true) ∧
      tb.compoundStarts.contains (upper cls w) = false
  | .int ds => ds ≠ [] ∧ ∀ x ∈ ds, isDigitB x = true
  | .punct p => isPunctB p = true ∧ ∃ ty, PunctOK tb p ty

/-- type and text of the token a lexeme must be read as -/
def Lexeme.key (cls : CharClass) (tb : Tables) : Lexeme → Nat × Bytes
  | .word w => ((lookup tb.keywords (upper cls w)).getD tb.ttIdentifier, w)
  | .int ds => (tb.ttNumber, ds)
  | .punct p => ((lookup tb.operators [p]).getD 0, [p])

/-- an item: a lexeme and the blank run after it -/
abbrev Item := Lexeme × Bytes

def flat : List Item → Bytes
  | [] => []
  | it :: rest => it.1.bytes ++ (it.2 ++ flat rest)

def ItemOK (cls : CharClass) (tb : Tables) (it : Item) : Prop :=
  it.1.ok cls tb ∧ it.2 ≠ [] ∧ ∀ x ∈ it.2, isWS x = true

section
variable {cls : CharClass} {tb : Tables}

def Lexeme.lx : Lexeme → Lx
  | .word w => .word w
  | .int ds => .int ds
  | .punct p => .op [p]

/-- an item of the first surface as an item of the reference grammar -/
def Item.lx (it : Item) : Item2 := (it.1.lx, [.blanks it.2])

theorem flat_eq_flat2 : ∀ items : List Item, flat items = flat2 (items.map Item.lx)
  | [] => rfl
  | it :: rest => by
    cases h : it.1 <;> simp [flat, flat2, Item.lx, Lexeme.lx, Lexeme.bytes, Lx.bytes, sepBytes, Piece.bytes, h, flat_eq_flat2 rest]

theorem itemsComments_lx : ∀ items : List Item, itemsComments (items.map Item.lx) = []
  | [] => rfl
  | it :: rest => by simp [itemsComments, Item.lx, sepComments, Piece.comments, itemsComments_lx rest]

theorem Lexeme.key_lx (l : Lexeme) : l.lx.key cls tb = l.key cls tb := by cases l <;> rfl

theorem isPunctB_cases {p : UInt8} (h : isPunctB p = true) : p = 40 ∨ p = 41 ∨ p = 44 ∨ p = 59 := by
  simpa only [isPunctB, Bool.or_eq_true, beq_iff_eq, or_assoc] using h

theorem stopB_head {b : UInt8} (tl : Bytes) (h : (isWordStartB b || isDigitB b || isPunctB b) = true) :
    stopB (b :: tl) = true := by
  have := lexemeHead h
  simp [stopB, this]

theorem OpIs.of_punctOK {p : UInt8} {ty : Nat} (h : PunctOK tb p ty) : OpIs tb [p] ty :=
  ⟨h.1, fun x hx hx1 => by rw [h.2 x hx (by rw [hx1]; rfl)]⟩

theorem Lexeme.reads (hA : AsciiOK cls) (l : Lexeme) (hl : l.ok cls tb) (s : UInt8) (hs : isWS s = true) (tl : Bytes) :
    stopB (l.lx.bytes ++ s :: tl) = true ∧ Reads cls tb l.lx.bytes (l.key cls tb) (s :: tl) := by
  cases l with
  | word w =>
    obtain ⟨c, cs, rfl, hc, hcs, hcomp⟩ := hl
    refine ⟨stopB_head _ (by simp [hc]), Lx.reads hA (.word (c :: cs)) _ ?_ ?_⟩
    · simpa [Lx.ok, hc] using hcs
    · simp only [Lx.follow, followWord_ws hA hs, hcomp, Bool.not_false, Bool.true_or, Bool.and_self]
  | int ds =>
    obtain ⟨hne, hds⟩ := hl
    obtain ⟨d, ds', rfl⟩ := List.exists_cons_of_ne_nil hne
    refine ⟨stopB_head _ (by simp [hds d]), Lx.reads hA (.int (d :: ds')) _ ?_ ?_⟩
    · simpa [Lx.ok] using hds
    · rcases isWS_cases hs with rfl | rfl | rfl | rfl <;> rfl
  | punct p =>
    obtain ⟨hp, ty, hT⟩ := hl
    have hty := OpIs.of_punctOK hT
    refine ⟨stopB_head _ (by simp [hp]), by simp [Lexeme.lx, Lx.bytes], fun inp => ⟨_, nextToken_op2 p [] (s :: tl) ty ?_ hty ?_, ?_⟩⟩
    · have := hA.punct p hp
      rcases isPunctB_cases hp with rfl | rfl | rfl | rfl <;> simpa [opHeadOK, isDigitB] using this
    · -- nothing in the table but `p` itself starts with `p`
      simp only [followOp, List.all_eq_true, Bool.not_eq_true']
      intro x hx
      refine Bool.eq_false_iff.2 fun hpre => ?_
      obtain ⟨t, ht⟩ := List.isPrefixOf_iff_prefix.1 hpre
      have := hT.2 x hx (by rw [← ht]; rfl)
      rw [this] at ht
      simp at ht
    · simp [Lexeme.key, hty.lookup, Tok.key]

theorem SeqReads.of_itemOK (hA : AsciiOK cls) : ∀ {items : List Item}, (∀ it ∈ items, ItemOK cls tb it) →
    SeqReads cls tb [] (items.map Item.lx)
  | [], _ => trivial
  | (l, ws) :: rest, h => by
    obtain ⟨hl, hne, hws⟩ := h _ (List.mem_cons_self ..)
    obtain ⟨s, ws', rfl⟩ := List.exists_cons_of_ne_nil hne
    have := Lexeme.reads hA l hl s (hws s (by simp)) (ws' ++ (flat2 (rest.map Item.lx) ++ []))
    refine ⟨by simpa [Item.lx, Piece.ok] using hws, ?_, ?_, .of_itemOK hA fun it hit => h it (List.mem_cons_of_mem _ hit)⟩
    · simpa [Item.lx, sepBytes, Piece.bytes] using this.1
    · simpa [Item.lx, sepBytes, Piece.bytes, Lexeme.key_lx] using this.2

end

/-- **C04 (reference surface)**: lexemes separated by any non-empty blank runs are read as exactly those lexemes, then
    the end marker; no comments; whatever the blank runs are -/
theorem tokenize_spell (cls : CharClass) (tb : Tables) (hA : AsciiOK cls) (lead : Bytes) (items : List Item)
    (hlead : ∀ x ∈ lead, isWS x = true) (hok : ∀ it ∈ items, ItemOK cls tb it)
    (hsize : (lead ++ flat items).length ≤ tb.maxInput) (hcount : items.length ≤ tb.maxTokens) :
    ∃ toks, tokenize cls tb (lead ++ flat items) = .ok toks [] ∧
      toks.map Tok.key = (items.map fun it => it.1.key cls tb) ++ [(0, [])] := by
  have e : lead ++ flat items = sepBytes [.blanks lead] ++ (flat2 (items.map Item.lx) ++ []) := by
    simp [sepBytes, Piece.bytes, flat_eq_flat2]
  rw [e] at hsize ⊢
  obtain ⟨ts, cs, hrun, h2, h3, _⟩ := run_items (inp := sepBytes [.blanks lead] ++ (flat2 (items.map Item.lx) ++ []))
    [] rfl (items.map Item.lx) [.blanks lead] [] [] rfl (by simpa [Piece.ok] using hlead) (.of_itemOK hA hok)
  have hlen : ts.length = items.length := by simpa using congrArg List.length h2
  obtain rfl : cs = [] := by simpa [sepComments, Piece.comments, itemsComments_lx] using h3
  refine ⟨_, tokenize_of_run hrun hsize (hlen ▸ hcount), ?_⟩
  simp [h2, Tok.key, Item.lx, Lexeme.key_lx]

/-- layout independence on this surface: two inputs with the same lexemes and different blank runs give the same tokens -/
theorem tokenize_layout_independent (cls : CharClass) (tb : Tables) (hA : AsciiOK cls) (lead1 lead2 : Bytes) (items1 items2 : List Item)
    (hsame : items1.map (·.1.key cls tb) = items2.map (·.1.key cls tb))
    (hl1 : ∀ x ∈ lead1, isWS x = true) (hl2 : ∀ x ∈ lead2, isWS x = true)
    (hok1 : ∀ it ∈ items1, ItemOK cls tb it) (hok2 : ∀ it ∈ items2, ItemOK cls tb it)
    (hs1 : (lead1 ++ flat items1).length ≤ tb.maxInput) (hs2 : (lead2 ++ flat items2).length ≤ tb.maxInput)
    (hc1 : items1.length ≤ tb.maxTokens) (hc2 : items2.length ≤ tb.maxTokens) :
    ∃ t1 t2, tokenize cls tb (lead1 ++ flat items1) = .ok t1 [] ∧ tokenize cls tb (lead2 ++ flat items2) = .ok t2 [] ∧
      t1.map Tok.key = t2.map Tok.key := by
  obtain ⟨t1, a1, b1⟩ := tokenize_spell cls tb hA lead1 items1 hl1 hok1 hs1 hc1
  obtain ⟨t2, a2, b2⟩ := tokenize_spell cls tb hA lead2 items2 hl2 hok2 hs2 hc2
  exact ⟨t1, t2, a1, a2, by rw [b1, b2, hsame]⟩

/-- `∃ ty, PunctOK tb p ty` as a computation over the operator table -/
def punctOKb (tb : Tables) (p : UInt8) : Bool :=
  match lookup tb.operators [p] with
  | some ty => tb.operators.contains ([p], ty) && tb.operators.all fun o => o.1.head? != some p || o == ([p], ty)
  | none => false

theorem punctOK_of_bool (tb : Tables) (p : UInt8) (h : punctOKb tb p = true) : ∃ ty, PunctOK tb p ty := by
  unfold punctOKb at h
  cases hl : lookup tb.operators [p] with
  | none => simp [hl] at h
  | some ty =>
    simp only [hl, Bool.and_eq_true] at h
    refine ⟨ty, by simpa using h.1, ?_⟩
    intro o ho hh
    have := List.all_eq_true.1 h.2 o ho
    simpa [hh] using this

end GoSQLXModel.Lex
