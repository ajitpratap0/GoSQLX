import GoSQLXModel.Proofs.LexSep
import GoSQLXModel.Proofs.LexReads
import GoSQLXModel.Proofs.LexRun
/-!
# The reference lexical grammar is tokenized as it says

`run_items`: a separator, a list of items and a tail at which the trivia loop stops make a `Run` (`Proofs/LexRun.lean`)
that reads one token per lexeme — type, value and place as the grammar says — takes exactly the separators' comments and
arrives at the tail.  What happens at the tail is then one fact about `lexHead`: the end marker (`tokenize_spell2`), an
error of `nextToken` or the token limit (`Proofs/LexSpell3.lean`).
-/
namespace GoSQLXModel.Lex

section
variable {cls : CharClass} {tb : Tables} {inp : Bytes}

/-- in `items ++ tail`, every separator is well formed and every lexeme is where the trivia loop stops and is read whole -/
def SeqReads (cls : CharClass) (tb : Tables) (tail : Bytes) : List Item2 → Prop
  | [] => True
  | it :: rest =>
    it.2.all Piece.ok = true ∧ stopB (it.1.bytes ++ (sepBytes it.2 ++ (flat2 rest ++ tail))) = true ∧
    Reads cls tb it.1.bytes (it.1.key cls tb) (sepBytes it.2 ++ (flat2 rest ++ tail)) ∧ SeqReads cls tb tail rest

theorem SeqReads.of_seqOKT (hA : AsciiOK cls) (tail : Bytes) :
    ∀ {items : List Item2}, seqOKT cls tb tail items = true → SeqReads cls tb tail items
  | [], _ => trivial
  | it :: rest, h => by
    simp only [seqOKT, Bool.and_eq_true, and_assoc] at h
    obtain ⟨hok, hsep, hfol, hstop, hrest⟩ := h
    exact ⟨hsep, hstop, Lx.reads hA it.1 _ hok hfol, .of_seqOKT hA tail hrest⟩

theorem seqOKT_nil (cls : CharClass) (tb : Tables) : ∀ items, seqOKT cls tb [] items = seqOK cls tb items
  | [] => rfl
  | it :: rest => by simp only [seqOKT, seqOK, List.append_nil, seqOKT_nil cls tb rest]

/-- `skipTriviaF_sep` with the fuel `lexLoop` gives -/
theorem skip_sep {pre : Bytes} (ps : List Piece) (X : Bytes) (cs : List Comment) (hinp : inp = pre ++ (sepBytes ps ++ X))
    (hok : ps.all Piece.ok = true) (hX : stopB X = true) :
    ∃ cs', skipTriviaF inp ((sepBytes ps ++ X).length + 1) (sepBytes ps ++ X) cs = (X, cs') ∧
      cs'.map Comment.key = cs.map Comment.key ++ sepComments ps ∧
      cs'.map Comment.span = cs.map Comment.span ++ sepSpans pre.length ps :=
  skipTriviaF_sep inp ps _ X cs pre hinp hok hX (by simp only [List.length_append]; omega)

theorem run_items (tail : Bytes) (htail : stopB tail = true) :
    ∀ (items : List Item2) (lead : List Piece) (cs : List Comment) (pre : Bytes),
      inp = pre ++ (sepBytes lead ++ (flat2 items ++ tail)) → lead.all Piece.ok = true → SeqReads cls tb tail items →
      ∃ ts cs', Run cls tb inp (sepBytes lead ++ (flat2 items ++ tail)) cs ts tail cs' ∧
        ts.map Tok.key = items.map (fun it => it.1.key cls tb) ∧
        cs'.map Comment.key = cs.map Comment.key ++ sepComments lead ++ itemsComments items ∧
        ts.map Tok.span = spans (pre.length + (sepBytes lead).length) items ∧
        cs'.map Comment.span = cs.map Comment.span ++ sepSpans pre.length lead ++
          itemsCommentSpans (pre.length + (sepBytes lead).length) items
  | [], lead, cs, pre, hinp, hlead, _ => by
    obtain ⟨cs', h1, h2, h3⟩ := skip_sep lead tail cs hinp hlead htail
    exact ⟨[], cs', .stop h1, rfl, by simp [h2, itemsComments], rfl, by simp [h3, itemsCommentSpans]⟩
  | it :: items, lead, cs, pre, hinp, hlead, ⟨hsep, hstop, ⟨hne, hread⟩, hrest⟩ => by
    obtain ⟨t, hnt, hkey⟩ := hread inp
    simp only [flat2, List.append_assoc] at hinp ⊢
    obtain ⟨cs1, hsk, hk1, hs1⟩ := skip_sep lead _ cs hinp hlead hstop
    have hinp1 : inp = (pre ++ sepBytes lead) ++ (it.1.bytes ++ (sepBytes it.2 ++ (flat2 items ++ tail))) := by
      rw [hinp, List.append_assoc]
    have hinp2 : inp = (pre ++ sepBytes lead ++ it.1.bytes) ++ (sepBytes it.2 ++ (flat2 items ++ tail)) := by
      rw [hinp]; simp
    obtain ⟨ts, cs', hrun, h2, h3, h4, h5⟩ := run_items tail htail items it.2 cs1 _ hinp2 hsep hrest
    refine ⟨_, cs', .tok hsk (by simp [hne]) hnt hrun, ?_, ?_, ?_, ?_⟩
    · simp [h2, Tok.key, ← hkey]
    · simp [h3, hk1, itemsComments]
    · simp only [List.map_cons, Tok.span, h4]
      rw [offset_eq hinp1, offset_eq hinp2]
      simp only [spans, List.length_append]
    · simp [h5, hs1, itemsCommentSpans, Nat.add_assoc]

end

/-- **C04 (reference grammar, second surface)**: the tokens are exactly the lexemes — kind and decoded value — then one
    end marker; the comments are exactly the separators' comments, in order, with their exact text -/
theorem tokenize_spell2 (cls : CharClass) (tb : Tables) (hA : AsciiOK cls) (lead : List Piece) (items : List Item2)
    (hlead : lead.all Piece.ok = true) (hok : seqOK cls tb items = true)
    (hsize : (sepBytes lead ++ flat2 items).length ≤ tb.maxInput) (hcount : items.length ≤ tb.maxTokens) :
    ∃ toks cs, tokenize cls tb (sepBytes lead ++ flat2 items) = .ok toks cs ∧
      toks.map Tok.key = (items.map fun it => it.1.key cls tb) ++ [(0, [])] ∧
      cs.map Comment.key = sepComments lead ++ itemsComments items ∧
      toks.map Tok.span = spans (sepBytes lead).length items ++
        [((sepBytes lead ++ flat2 items).length, (sepBytes lead ++ flat2 items).length)] ∧
      cs.map Comment.span = sepSpans 0 lead ++ itemsCommentSpans (sepBytes lead).length items := by
  rw [← List.append_nil (flat2 items)] at hsize ⊢
  obtain ⟨ts, cs, hrun, h2, h3, h4, h5⟩ := run_items [] rfl items lead [] [] rfl hlead
    (.of_seqOKT hA [] ((seqOKT_nil cls tb items).trans hok))
  have hlen : ts.length = items.length := by simpa using congrArg List.length h2
  exact ⟨_, cs, tokenize_of_run hrun hsize (hlen ▸ hcount), by simp [h2, Tok.key], by simpa using h3,
    by simp [h4, Tok.span], by simpa using h5⟩

/-- layout independence: the same lexemes under two layouts (any blanks, any comments, or nothing where legal) give
    the same kinds and values -/
theorem tokenize_layout_independent2 (cls : CharClass) (tb : Tables) (hA : AsciiOK cls) (lead1 lead2 : List Piece)
    (items1 items2 : List Item2) (hsame : items1.map (·.1.key cls tb) = items2.map (·.1.key cls tb))
    (hl1 : lead1.all Piece.ok = true) (hl2 : lead2.all Piece.ok = true)
    (hok1 : seqOK cls tb items1 = true) (hok2 : seqOK cls tb items2 = true)
    (hs1 : (sepBytes lead1 ++ flat2 items1).length ≤ tb.maxInput) (hs2 : (sepBytes lead2 ++ flat2 items2).length ≤ tb.maxInput)
    (hc1 : items1.length ≤ tb.maxTokens) (hc2 : items2.length ≤ tb.maxTokens) :
    ∃ t1 c1 t2 c2, tokenize cls tb (sepBytes lead1 ++ flat2 items1) = .ok t1 c1 ∧
      tokenize cls tb (sepBytes lead2 ++ flat2 items2) = .ok t2 c2 ∧ t1.map Tok.key = t2.map Tok.key := by
  obtain ⟨t1, c1, a1, b1, _, _, _⟩ := tokenize_spell2 cls tb hA lead1 items1 hl1 hok1 hs1 hc1
  obtain ⟨t2, c2, a2, b2, _, _, _⟩ := tokenize_spell2 cls tb hA lead2 items2 hl2 hok2 hs2 hc2
  exact ⟨t1, c1, t2, c2, a1, a2, by rw [b1, b2, hsame]⟩

/-- the spans point at the lexemes' own bytes: cutting the text at each (start, end) gives back each lexeme as written -/
theorem spans_slice : ∀ (items : List Item2) (pre : Bytes),
    (spans pre.length items).map (fun se => ((pre ++ flat2 items).drop se.1).take (se.2 - se.1)) = items.map (·.1.bytes) := by
  intro items
  induction items with
  | nil => intro pre; rfl
  | cons it rest ih =>
    intro pre
    have ih := ih (pre ++ it.1.bytes ++ sepBytes it.2)
    simp only [List.length_append, List.append_assoc] at ih
    simp [spans, flat2, ih, Nat.add_assoc]

/-- the letter case of a keyword does not change its kind: two spellings with the same upper-case form are read as
    the same token type -/
theorem word_kind_case_insensitive (cls : CharClass) (tb : Tables) (w1 w2 : Bytes) (h : upper cls w1 = upper cls w2) :
    ((Lx.word w1).key cls tb).1 = ((Lx.word w2).key cls tb).1 := by
  simp [Lx.key, h]

end GoSQLXModel.Lex
