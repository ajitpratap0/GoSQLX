import GoSQLXModel.Proofs.LexSpell2
/-!
# After a reference text: an error is located at the offending element, the token limit at what exceeds it

`run_items` brings the loop to whatever follows a text of the reference grammar; what happens there is one fact about
`lexHead`.  `unterminated_literal_located`: when what follows is a single-quoted literal that never closes (plain body),
the error is `E1002`, located at the byte offset of the literal's opening quote — whatever comments, blank lines and
multi-line literals precede it.  `token_limit_refuses`: when the text has `maxTokens` lexemes, anything that starts another
token is refused with `E1007`.  `lexLoop_prefix_err` is the first of these for `lexLoop` itself and any error of
`nextToken`: the loop answers exactly that error, whatever its accumulator holds as long as the token limit is not met on
the way (the tokens read before do not matter, and no other error comes first).
-/
namespace GoSQLXModel.Lex

theorem run_seqOKT (cls : CharClass) (tb : Tables) (inp : Bytes) (hA : AsciiOK cls) (tail : Bytes) (htail : stopB tail = true)
    (items : List Item2) (lead : List Piece) (cs : List Comment) (pre : Bytes)
    (hinp : inp = pre ++ (sepBytes lead ++ (flat2 items ++ tail))) (hlead : lead.all Piece.ok = true)
    (hok : seqOKT cls tb tail items = true) :
    ∃ ts cs', Run cls tb inp (sepBytes lead ++ (flat2 items ++ tail)) cs ts tail cs' ∧ ts.length = items.length := by
  obtain ⟨ts, cs', hrun, hkeys, _⟩ := run_items tail htail items lead cs pre hinp hlead (.of_seqOKT hA tail hok)
  exact ⟨ts, cs', hrun, by simpa using congrArg List.length hkeys⟩

theorem lexLoop_prefix_err (cls : CharClass) (tb : Tables) (inp : Bytes) (hA : AsciiOK cls) (tail : Bytes) (e : LexErr)
    (htail : stopB tail = true) (hne : tail ≠ []) (herr : nextToken cls tb inp tail = .error e) :
    ∀ (items : List Item2) (fuel : Nat) (lead : List Piece) (acc : List Tok) (cs : List Comment) (pre : Bytes),
      inp = pre ++ (sepBytes lead ++ (flat2 items ++ tail)) →
      lead.all Piece.ok = true → seqOKT cls tb tail items = true → items.length < fuel →
      acc.length + items.length < tb.maxTokens →
      lexLoop cls tb inp fuel (sepBytes lead ++ (flat2 items ++ tail)) acc cs = .err e := by
  intro items fuel lead acc cs pre hinp hlead hok hf hmax
  obtain ⟨ts, cs', hrun, hlen⟩ := run_seqOKT cls tb inp hA tail htail items lead cs pre hinp hlead hok
  obtain ⟨k, rfl⟩ : ∃ k, fuel = k + ts.length + 1 := ⟨fuel - ts.length - 1, by omega⟩
  rw [lexLoop_of_run hrun acc k (by omega), lexHead_err _ _ hne (by simp; omega) herr]

/-- **Refusal at the limit**: `maxTokens` lexemes of the reference grammar, then anything that starts another token, are
    refused with `E1007`, located at the offset of what follows — wherever the statement boundaries lie (a semicolon is a
    lexeme like any other) -/
theorem token_limit_refuses (cls : CharClass) (tb : Tables) (hA : AsciiOK cls) (lead : List Piece) (items : List Item2) (tail : Bytes)
    (htail : stopB tail = true) (hne : tail ≠ []) (hlead : lead.all Piece.ok = true) (hok : seqOKT cls tb tail items = true)
    (hsize : (sepBytes lead ++ (flat2 items ++ tail)).length ≤ tb.maxInput) (hcount : items.length = tb.maxTokens) :
    tokenize cls tb (sepBytes lead ++ (flat2 items ++ tail)) =
      .err ⟨"E1007", .at ((sepBytes lead ++ (flat2 items ++ tail)).length - tail.length)⟩ := by
  obtain ⟨ts, cs', hrun, hlen⟩ := run_seqOKT cls tb _ hA tail htail items lead [] [] (List.nil_append _).symm hlead hok
  rw [tokenize_of_run hrun hsize (by omega), lexHead_limit _ _ hne (by simp; omega)]

def plainBody (body : Bytes) : Bool := body.all fun b => decide (b.toNat < 128) && b != 39 && b != 92

section
variable {cls : CharClass} {tb : Tables} {inp : Bytes}

theorem stringBody_unterminated : ∀ (body acc : Bytes) (fuel : Nat), plainBody body = true →
    stringBodyF inp 39 fuel body acc = .ok none
  | [], _, 0, _ | [], _, _ + 1, _ | _ :: _, _, 0, _ => rfl
  | b :: rest, acc, f + 1, h => by
    have h : SP.ok (.ch b) = true ∧ plainBody rest = true := Bool.and_eq_true_iff.1 h
    exact (stringBodyF_piece (.ch b) h.1 f rest acc).trans (stringBody_unterminated rest _ f h.2)

theorem nextToken_unterminated (body : Bytes) (h39 : isIdentStart cls 39 = false) (hb : plainBody body = true) :
    nextToken cls tb inp (39 :: body) = .error ⟨"E1002", .at (inp.length - (39 :: body).length)⟩ := by
  have htriple : isTriple 39 (39 :: body) = false := by
    match body, hb with
    | [], _ => rfl
    | b :: rest, hb =>
      simp only [plainBody, List.all_cons, Bool.and_eq_true, decide_eq_true_eq, bne_iff_ne] at hb
      exact isTriple_ascii hb.1.1.1 hb.1.1.2 rest
  simp only [nextToken_squote h39, readQuotedString, nextRune_ascii 39 _ (by decide), UInt8.reduceToNat, htriple,
    Bool.false_eq_true, if_false, show normalizeQuote 39 = 39 from rfl, stringBody_unterminated body [] _ hb]

end

/-- **C05 (error location)**: a reference text followed by a single-quoted literal that never closes is rejected with
    `E1002` located at the byte offset of the literal's opening quote -/
theorem unterminated_literal_located (cls : CharClass) (tb : Tables) (hA : AsciiOK cls) (h39 : isIdentStart cls 39 = false)
    (lead : List Piece) (items : List Item2) (body : Bytes)
    (hlead : lead.all Piece.ok = true) (hb : plainBody body = true)
    (hok : seqOKT cls tb (39 :: body) items = true)
    (hsize : (sepBytes lead ++ (flat2 items ++ 39 :: body)).length ≤ tb.maxInput) (hcount : items.length < tb.maxTokens) :
    tokenize cls tb (sepBytes lead ++ (flat2 items ++ 39 :: body)) =
      .err ⟨"E1002", .at (sepBytes lead ++ flat2 items).length⟩ := by
  obtain ⟨ts, cs', hrun, hlen⟩ := run_seqOKT cls tb _ hA (39 :: body) (by cases body <;> simp [stopB, isWS]) items lead [] []
    (List.nil_append _).symm hlead hok
  rw [tokenize_of_run hrun hsize (by omega), lexHead_err _ _ (by simp) (by simp; omega) (nextToken_unterminated body h39 hb),
    offset_eq (List.append_assoc ..).symm]

end GoSQLXModel.Lex
