import GoSQLXModel.Proofs.LintLemmas
/-!
# L003 (consecutive blank lines): the fixer converges

`fixL003` drops every blank line beyond `max` in a run (`dropExcessBlank`), then trims a trailing run longer than `max`
(`trimTrailingBlank`), then joins.  The counter of the first pass is the length of the blank run read so far, and the
run written so far is that capped at `max` (`trail_drop`); so the trailing loop changes nothing (`trim_id`), a second
pass keeps every line (`drop_idem`), and splitting the joined lines gives the lines back: `fixL003_idempotent`.
-/
namespace GoSQLXModel.Lint

/-- a second pass that starts from a smaller counter keeps every line the first one kept -/
theorem drop_idem (cls : CharClass) (max : Nat) (ls : List (List Char)) (n m : Nat) (h : m ≤ n) :
    dropExcessBlank cls max m (dropExcessBlank cls max n ls) = dropExcessBlank cls max n ls := by
  fun_induction dropExcessBlank cls max n ls generalizing m with
  | case1 => rfl
  | case2 n l ls hb hn ih => simp only [dropExcessBlank, hb, if_true, if_pos (show m + 1 ≤ max by omega), ih (m + 1) (by omega)]
  | case3 n l ls hb hn ih => exact ih m (by omega)
  | case4 n l ls hb ih => simp only [dropExcessBlank, hb, if_false, ih 0 (Nat.le_refl 0), Bool.false_eq_true]

theorem drop_sublist (cls : CharClass) (max : Nat) (ls : List (List Char)) (n : Nat) : (dropExcessBlank cls max n ls).Sublist ls := by
  fun_induction dropExcessBlank cls max n ls <;> simp [*]

/-- length of the blank run that ends `pre ++ ls`, if `k` is the length of the one that ends `pre` -/
def trail (cls : CharClass) : Nat → List (List Char) → Nat
  | k, [] => k
  | k, l :: ls => trail cls (if isBlankLine cls l then k + 1 else 0) ls

theorem trail_eq (cls : CharClass) (ls pre : List (List Char)) :
    ((pre ++ ls).reverse.takeWhile (isBlankLine cls)).length = trail cls (pre.reverse.takeWhile (isBlankLine cls)).length ls := by
  induction ls generalizing pre with
  | nil => simp [trail]
  | cons l ls ih =>
    have := ih (pre ++ [l])
    simp only [List.append_assoc, List.singleton_append] at this
    rw [this, trail, List.reverse_append, List.reverse_singleton, List.singleton_append, List.takeWhile_cons]
    split <;> rfl

/-- the counter of `dropExcessBlank` is the blank run of the input so far; that of the output is capped at `max` -/
theorem trail_drop (cls : CharClass) (max : Nat) (ls : List (List Char)) (n : Nat) :
    trail cls (min n max) (dropExcessBlank cls max n ls) ≤ max := by
  fun_induction dropExcessBlank cls max n ls with
  | case1 => exact Nat.min_le_right ..
  | case2 n l ls hb hn ih => simpa [trail, hb, show min n max + 1 = min (n + 1) max by omega] using ih
  | case3 n l ls hb hn ih => simpa [show min n max = min (n + 1) max by omega] using ih
  | case4 n l ls hb ih => simpa [trail, hb] using ih

/-- after the first pass the trailing loop has nothing to do -/
theorem trim_id (cls : CharClass) (max : Nat) (out : List (List Char))
    (h : (out.reverse.takeWhile (isBlankLine cls)).length ≤ max) : ∀ f, trimTrailingBlank cls max f out = out
  | 0 => rfl
  | f + 1 => by
    unfold trimTrailingBlank
    split
    · rfl
    · split
      · rw [if_neg (by omega)]
      · rfl

/-- what `fixL003` computes: the first pass alone -/
theorem fixL003_eq (cls : CharClass) (max : Nat) (s : List Char) :
    fixL003 cls max s = joinLines (dropExcessBlank cls max 0 (splitLines s)) := by
  unfold fixL003
  simp only []   -- reduces the `let` of `fixL003`
  rw [trim_id]
  have := trail_drop cls max (splitLines s) 0
  rw [Nat.zero_min] at this
  exact Nat.le_trans (Nat.le_of_eq (trail_eq cls _ [])) this

/-- **L003 converges**: fixing a fixed text changes nothing -/
theorem fixL003_idempotent (cls : CharClass) (max : Nat) (s : List Char) :
    fixL003 cls max (fixL003 cls max s) = fixL003 cls max s := by
  rw [fixL003_eq cls max s, fixL003_eq]
  cases hD : dropExcessBlank cls max 0 (splitLines s) with
  | nil =>
    -- every line was blank and none may stay: the empty text; its single (empty) line is blank too
    simp only [joinLines, splitLines, dropExcessBlank]
    split
    · split <;> rfl
    · rfl
  | cons a as =>
    have hno : ∀ l ∈ a :: as, '\n' ∉ l := fun l hl =>
      splitLines_no_nl s l ((drop_sublist cls max (splitLines s) 0).subset (hD ▸ hl))
    rw [split_join (a :: as) (by simp) hno, ← hD, drop_idem cls max _ 0 0 (Nat.le_refl 0)]
end GoSQLXModel.Lint
