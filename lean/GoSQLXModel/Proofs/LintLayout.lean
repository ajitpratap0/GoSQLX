import GoSQLXModel.Proofs.LexSpell2
/-!
# Rewriters that touch only blank runs keep the tokens

The whitespace fixers of the linter, seen over bytes, all have one shape: a pass `G` over the text (a state `σ` is
threaded through from the left; the rest of the text may be looked at, as the trailing-blank fixer does) that copies
every byte other than space and tab, copies every *solid* stretch (no line feed inside, not ending in a blank), and
turns a blank or line end into a run of such.  That is `Relayout G`.  For such a `G` every *tame* text of the reference
grammar of `tokenize_spell2` (lexemes and comments on one line, not ending in a blank) is rewritten into a text of
the reference grammar with the same lexemes, the same comments and separators of the same shape (`Relayout.seq`); the
junctions still pass `seqOK` because what follows a lexeme is the same byte as before, or was a blank or line end and
is one still, or the end of the text (`Relayout.headRel`, for every text); so `tokenize_spell2` reads both texts as the
same tokens (`Relayout.keeps_tokens`).  Such rewriters compose (`Relayout.comp`).
-/
namespace GoSQLXModel.Lex

def isBlankB (b : UInt8) : Bool := b == 32 || b == 9

theorem blank_ws (b : UInt8) (h : isBlankB b = true) : isWS b = true := by
  simp only [isBlankB, Bool.or_eq_true, beq_iff_eq] at h
  rcases h with h | h <;> (subst h; decide)

theorem not_blank_of_not_ws {b : UInt8} (h : isWS b = false) : isBlankB b = false := by
  cases hb : isBlankB b with
  | false => rfl
  | true => rw [blank_ws b hb] at h; exact absurd h (by simp)

/-- no line feed inside, not empty, last byte no blank -/
def solidB (L : Bytes) : Bool :=
  L.all (· != 10) && (match L.getLast? with | some b => !isBlankB b | none => false)

theorem solidB_ne_nil (L : Bytes) (h : solidB L = true) : L ≠ [] := by
  intro e; subst e; simp [solidB] at h

theorem solidB_no_nl {L : Bytes} (h : solidB L = true) : L.all (· != 10) = true :=
  (Bool.and_eq_true_iff.1 h).1

theorem solidB_tail {b c : UInt8} {L : Bytes} (h : solidB (b :: c :: L) = true) : solidB (c :: L) = true := by
  simp only [solidB, List.all_cons, List.getLast?_cons_cons, Bool.and_eq_true] at h ⊢
  exact ⟨h.1.2, h.2⟩

def headWS : Bytes → Bool
  | b :: _ => isWS b
  | [] => false

theorem headWS_cons {Z : Bytes} (h : headWS Z = true) : ∃ w X, Z = w :: X ∧ isWS w = true := by
  cases Z with
  | nil => cases h
  | cons w X => exact ⟨w, X, rfl, h⟩

def Piece.tame : Piece → Bool
  | .blanks _ => true
  | .line body => solidB (45 :: 45 :: body)           -- the comment text does not end in a blank
  | .block body => body.all (· != 10)                 -- one-line block comments

theorem block_solid (body : Bytes) (h : body.all (· != 10) = true) : solidB (47 :: 42 :: (body ++ [42, 47])) = true := by
  have e : (47 :: 42 :: (body ++ [42, 47]) : Bytes) = (47 :: 42 :: body ++ [42]) ++ [47] := by simp
  rw [solidB, e, List.getLast?_concat, List.all_append, List.all_append, List.all_cons, List.all_cons, h]
  rfl

def blanksTwice : Piece → List Piece → Bool
  | .blanks _, .blanks _ :: _ => true
  | _, _ => false
/-- no two blank-run pieces in a row (a blank run is written as one piece) -/
def sepNorm : List Piece → Bool
  | [] => true
  | p :: ps => !blanksTwice p ps && sepNorm ps

/-- no operator of the table contains a blank or a line end -/
def opsNoWS (tb : Tables) : Bool := tb.operators.all fun o => o.1.all fun b => !isWS b

/-- a lexeme the line-based fixers see as the tokenizer does: on one line, not ending in a blank; a word that is not
    the first word of a two-word keyword (those are written as `.compound`) -/
def Lx.tame (cls : CharClass) (tb : Tables) (l : Lx) : Bool :=
  solidB l.bytes && (match l with | .word w => !tb.compoundStarts.contains (upper cls w) | _ => true)

def tameSeq (cls : CharClass) (tb : Tables) : List Item2 → Bool
  | [] => true
  | it :: rest => it.1.tame cls tb && it.2.all Piece.tame && sepNorm it.2 && tameSeq cls tb rest

/-- the content of a blank run forgotten -/
def Piece.erase : Piece → Piece
  | .blanks _ => .blanks []
  | p => p

/-- two separators that differ only in the content of their blank runs -/
def sameShape (ps ps' : List Piece) : Prop := ps'.map Piece.erase = ps.map Piece.erase

theorem sameShape.congr {α} {ps ps' : List Piece} (h : sameShape ps ps') (f : List Piece → α)
    (hf : ∀ ps, f (ps.map Piece.erase) = f ps) : f ps' = f ps := by
  rw [← hf, h, hf]

theorem all_tame_erase (ps : List Piece) : (ps.map Piece.erase).all Piece.tame = ps.all Piece.tame := by
  induction ps with
  | nil => rfl
  | cons p ps ih => cases p <;> simp [Piece.erase, Piece.tame, ih]

theorem sepNorm_erase : ∀ ps : List Piece, sepNorm (ps.map Piece.erase) = sepNorm ps
  | [] => rfl
  | [p] => by cases p <;> rfl
  | p :: q :: ps => by
    have ih := sepNorm_erase (q :: ps)
    simp only [List.map_cons, sepNorm] at ih ⊢
    rw [ih]
    cases p <;> cases q <;> rfl

theorem sepComments_erase (ps : List Piece) : sepComments (ps.map Piece.erase) = sepComments ps := by
  induction ps with
  | nil => rfl
  | cons p ps ih => cases p <;> simp [Piece.erase, sepComments, Piece.comments, ih]

theorem sameShape_tame {ps ps' : List Piece} (h : sameShape ps ps') : ps'.all Piece.tame = ps.all Piece.tame :=
  h.congr (·.all Piece.tame) all_tame_erase

/-- how the first bytes of two continuations compare: the same first byte, or a blank / line end replaced by another
    one or by the end of the text -/
def HeadRel (Y Y' : Bytes) : Prop := Y.head? = Y'.head? ∨ (headWS Y = true ∧ (Y' = [] ∨ headWS Y' = true))

theorem headRel_refl_of_head (Y Y' : Bytes) (h : Y.head? = Y'.head?) : HeadRel Y Y' := Or.inl h

/-- a tame word starts no two-word keyword, so nothing beyond the next byte is looked at -/
theorem follow_word (cls : CharClass) (tb : Tables) (w : Bytes) (ht : (Lx.word w).tame cls tb = true) (Z : Bytes) :
    (Lx.word w).follow cls tb Z = followWord cls Z := by
  simp only [Lx.tame, Bool.and_eq_true, Bool.not_eq_true'] at ht
  simp only [Lx.follow, ht.2, Bool.not_false, Bool.true_or, Bool.and_true]

theorem follow_head_only (cls : CharClass) (tb : Tables) (l : Lx) (ht : l.tame cls tb = true) (b : UInt8) (t t' : Bytes) :
    l.follow cls tb (b :: t) = l.follow cls tb (b :: t') := by
  cases l with
  | word w => rw [follow_word cls tb w ht, follow_word cls tb w ht]; rfl
  | num ip fp ex => cases ex <;> rfl
  | _ => rfl

theorem follow_nil (cls : CharClass) (tb : Tables) (l : Lx) (ht : l.tame cls tb = true) : l.follow cls tb [] = true := by
  cases l with
  | word w => exact follow_word cls tb w ht []
  | num ip fp ex => cases ex <;> rfl
  | _ => rfl

theorem follow_ws (cls : CharClass) (tb : Tables) (hA : AsciiOK cls) (hops : opsNoWS tb = true) (l : Lx)
    (ht : l.tame cls tb = true) (b : UInt8) (Z : Bytes) (hb : isWS b = true) : l.follow cls tb (b :: Z) = true := by
  have hw := followWord_ws hA hb Z
  cases l with
  | word w => rw [follow_word cls tb w ht]; exact hw
  | compound w1 ws w2 => exact hw
  | op o =>
    simp only [Lx.follow, followOp, List.all_eq_true, Bool.not_eq_true']
    intro x hx
    cases hp : (o ++ [b]).isPrefixOf x.1 with
    | false => rfl
    | true =>
      -- an operator that continues with `b` would contain a blank or line end
      obtain ⟨t, ht'⟩ := List.isPrefixOf_iff_prefix.1 hp
      have := List.all_eq_true.1 (List.all_eq_true.1 hops x hx) b (by rw [← ht']; simp)
      simp [hb] at this
  | num ip fp ex => cases ex <;> rcases isWS_cases hb with rfl | rfl | rfl | rfl <;> rfl
  | _ => rcases isWS_cases hb with rfl | rfl | rfl | rfl <;> rfl

theorem follow_transfer (cls : CharClass) (tb : Tables) (hA : AsciiOK cls) (hops : opsNoWS tb = true) (l : Lx)
    (ht : l.tame cls tb = true) (Z Z' : Bytes) (hr : HeadRel Z Z') (h : l.follow cls tb Z = true) : l.follow cls tb Z' = true := by
  rcases hr with e | ⟨_, rfl | hw⟩
  · match Z, Z', e with
    | [], [], _ => exact h
    | b :: t, _ :: t', rfl => exact follow_head_only cls tb l ht b t t' ▸ h
  · exact follow_nil cls tb l ht
  · obtain ⟨w, X, rfl, hw⟩ := headWS_cons hw
    exact follow_ws cls tb hA hops l ht w X hw

theorem stop_transfer (L Z Z' : Bytes) (hL : L ≠ []) (hr : HeadRel Z Z') (h : stopB (L ++ Z) = true) : stopB (L ++ Z') = true := by
  match L, hL with
  | b :: c :: L, _ => exact h       -- only the first two bytes are looked at
  | [b], _ =>
    simp only [List.singleton_append, stopB, Bool.and_eq_true, Bool.not_eq_true'] at h ⊢
    rcases hr with e | ⟨_, rfl | hw⟩
    · rwa [← e]
    · simp [h.1.1]
    · obtain ⟨w, X, rfl, hw⟩ := headWS_cons hw
      -- a blank or line end is neither the second `-` of `--` nor the `*` of `/*`
      have : w ≠ 45 ∧ w ≠ 42 := by rcases isWS_cases hw with rfl | rfl | rfl | rfl <;> decide
      simp [h.1.1, this]

theorem headWS_of_stopB : ∀ (L Z : Bytes), L ≠ [] → stopB (L ++ Z) = true → headWS L = false
  | [], _, h, _ => absurd rfl h
  | b :: L, Z, _, h => by
    simp only [List.cons_append, stopB, Bool.and_eq_true, Bool.not_eq_true'] at h
    exact h.1.1

/-- The fields speak of every state and every text, not only of tame ones.  `wsHead` is a field of its own because the run
    `ws'` that `ws` writes for a blank may be empty, and then `ws` does not say how the output begins.  L010 (it collapses
    blanks inside a solid stretch) and L003 (it drops line feeds) are not instances. -/
structure Relayout {σ : Type} (G : σ → Bytes → Bytes) : Prop where
  nil : ∀ st, G st [] = []
  byte : ∀ st b R, isBlankB b = false → ∃ st', G st (b :: R) = b :: G st' R
  solid : ∀ st L R, solidB L = true → headWS L = false → ∃ st', G st (L ++ R) = L ++ G st' R
  ws : ∀ st w X, isWS w = true → ∃ ws' st', G st (w :: X) = ws' ++ G st' X ∧ ws'.all isWS = true
  wsHead : ∀ st w X, isWS w = true → G st (w :: X) = [] ∨ headWS (G st (w :: X)) = true

namespace Relayout
variable {σ : Type} {G : σ → Bytes → Bytes}

theorem headRel (hG : Relayout G) (st : σ) : ∀ T, HeadRel T (G st T)
  | [] => Or.inl (by rw [hG.nil])
  | b :: X => by
    cases hb : isWS b with
    | true => exact Or.inr ⟨hb, hG.wsHead st b X hb⟩
    | false =>
      obtain ⟨st', e⟩ := hG.byte st b X (not_blank_of_not_ws hb)
      exact Or.inl (by rw [e]; rfl)

theorem run (hG : Relayout G) : ∀ (ws X : Bytes) (st : σ), ws.all isWS = true →
    ∃ ws' st', G st (ws ++ X) = ws' ++ G st' X ∧ ws'.all isWS = true
  | [], _, st, _ => ⟨[], st, rfl, rfl⟩
  | w :: ws, X, st, h => by
    simp only [List.all_cons, Bool.and_eq_true] at h
    obtain ⟨a, st1, e1, ha⟩ := hG.ws st w (ws ++ X) h.1
    obtain ⟨b, st2, e2, hb⟩ := run hG ws X st1 h.2
    exact ⟨a ++ b, st2, by rw [List.cons_append, e1, e2, List.append_assoc], by simp [ha, hb]⟩

/-- a blank run becomes a blank run; a one-line comment is copied -/
theorem piece (hG : Relayout G) (p : Piece) (X : Bytes) (st : σ) (hok : p.ok = true) (htame : p.tame = true) :
    ∃ (p' : Piece) (st' : σ), G st (p.bytes ++ X) = p'.bytes ++ G st' X ∧ p'.ok = true ∧ p'.erase = p.erase := by
  cases p with
  | blanks ws =>
    obtain ⟨ws', st', e, h⟩ := hG.run ws X st hok
    exact ⟨.blanks ws', st', e, h, rfl⟩
  | line body =>
    obtain ⟨st1, e1⟩ := hG.solid st (45 :: 45 :: body) (10 :: X) htame rfl
    obtain ⟨st2, e2⟩ := hG.byte st1 10 X rfl
    exact ⟨.line body, st2, by simpa [Piece.bytes, e2] using e1, hok, rfl⟩
  | block body =>
    obtain ⟨st', e⟩ := hG.solid st _ X (block_solid body htame) rfl
    exact ⟨.block body, st', e, hok, rfl⟩

theorem sep (hG : Relayout G) (ps : List Piece) (X : Bytes) (st : σ) (hok : ps.all Piece.ok = true) (htame : ps.all Piece.tame = true) :
    ∃ ps' st', G st (sepBytes ps ++ X) = sepBytes ps' ++ G st' X ∧ ps'.all Piece.ok = true ∧ sameShape ps ps' := by
  induction ps generalizing st with
  | nil => exact ⟨[], st, rfl, rfl, rfl⟩
  | cons p ps ih =>
    simp only [List.all_cons, Bool.and_eq_true] at hok htame
    obtain ⟨p', st1, e1, o1, s1⟩ := hG.piece p (sepBytes ps ++ X) st hok.1 htame.1
    obtain ⟨ps', st2, e2, o2, s2⟩ := ih st1 hok.2 htame.2
    exact ⟨p' :: ps', st2, by simp only [sepBytes, List.append_assoc, e1, e2], by simp only [List.all_cons, o1, o2, Bool.and_self],
      List.cons_eq_cons.2 ⟨s1, s2⟩⟩

/-- **a tame text of the reference grammar is rewritten into one with the same lexemes and the same comments** -/
theorem seq (hG : Relayout G) (cls : CharClass) (tb : Tables) (hA : AsciiOK cls) (hops : opsNoWS tb = true)
    (items : List Item2) (st : σ) (hok : seqOK cls tb items = true) (htame : tameSeq cls tb items = true) :
    ∃ items', G st (flat2 items) = flat2 items' ∧ seqOK cls tb items' = true ∧
      items'.map (·.1) = items.map (·.1) ∧ itemsComments items' = itemsComments items ∧ tameSeq cls tb items' = true := by
  induction items generalizing st with
  | nil => exact ⟨[], hG.nil st, rfl, rfl, rfl, rfl⟩
  | cons it rest ih =>
    simp only [seqOK, tameSeq, Bool.and_eq_true, and_assoc] at hok htame
    obtain ⟨hlok, hsepok, hfollow, hstop, hrestok⟩ := hok
    obtain ⟨hlt, hst, hnorm, hresttame⟩ := htame
    have hsolid : solidB it.1.bytes = true := (Bool.and_eq_true_iff.1 hlt).1
    have hne := solidB_ne_nil _ hsolid
    -- the lexeme is copied, then its separator is rewritten, then the rest; `hr`: what follows the lexeme now
    obtain ⟨st1, e1⟩ := hG.solid st _ (sepBytes it.2 ++ flat2 rest) hsolid (headWS_of_stopB _ _ hne hstop)
    have hr := hG.headRel st1 (sepBytes it.2 ++ flat2 rest)
    obtain ⟨ps', st2, e2, o2, s2⟩ := hG.sep it.2 (flat2 rest) st1 hsepok hst
    obtain ⟨rest', e3, o3, m3, c3, t3⟩ := ih st2 hrestok hresttame
    rw [e2, e3] at hr
    refine ⟨(it.1, ps') :: rest', by simp only [flat2, e1, e2, e3], ?_, by simp [m3], ?_, ?_⟩
    · simp only [seqOK, Bool.and_eq_true, and_assoc]
      exact ⟨hlok, o2, follow_transfer cls tb hA hops it.1 hlt _ _ hr hfollow, stop_transfer _ _ _ hne hr hstop, o3⟩
    · simp [itemsComments, c3, s2.congr sepComments sepComments_erase]
    · simp only [tameSeq, Bool.and_eq_true, and_assoc]
      exact ⟨hlt, sameShape_tame s2 ▸ hst, s2.congr sepNorm sepNorm_erase ▸ hnorm, t3⟩

/-- **a rewriter of blank runs keeps the tokens**: a tame text of the reference grammar and its image (both within
    the size limit) are read as the same sequence of (kind, value) pairs and the same comments -/
theorem keeps_tokens (hG : Relayout G) (cls : CharClass) (tb : Tables) (hA : AsciiOK cls) (hops : opsNoWS tb = true)
    (st : σ) (lead : List Piece) (items : List Item2)
    (hlead : lead.all Piece.ok = true) (hleadT : lead.all Piece.tame = true)
    (hok : seqOK cls tb items = true) (htame : tameSeq cls tb items = true)
    (hsize : (sepBytes lead ++ flat2 items).length ≤ tb.maxInput)
    (hsize' : (G st (sepBytes lead ++ flat2 items)).length ≤ tb.maxInput) (hcount : items.length ≤ tb.maxTokens) :
    ∃ toks cs toks' cs', tokenize cls tb (sepBytes lead ++ flat2 items) = .ok toks cs ∧
      tokenize cls tb (G st (sepBytes lead ++ flat2 items)) = .ok toks' cs' ∧
      toks'.map Tok.key = toks.map Tok.key ∧ cs'.map Comment.key = cs.map Comment.key := by
  obtain ⟨lead', st1, e1, o1, s1⟩ := hG.sep lead (flat2 items) st hlead hleadT
  obtain ⟨items', e2, o2, m2, c2, _⟩ := hG.seq cls tb hA hops items st1 hok htame
  rw [e2] at e1
  rw [e1] at hsize' ⊢
  have hcount' : items'.length ≤ tb.maxTokens := by
    rw [← List.length_map (as := items'), m2, List.length_map]; exact hcount
  obtain ⟨toks, cs, t1, t2, t3, _⟩ := tokenize_spell2 cls tb hA lead items hlead hok hsize hcount
  obtain ⟨toks', cs', u1, u2, u3, _⟩ := tokenize_spell2 cls tb hA lead' items' o1 o2 hsize' hcount'
  refine ⟨toks, cs, toks', cs', t1, u1, ?_, by rw [t3, u3, c2, s1.congr sepComments sepComments_erase]⟩
  have := congrArg (List.map (Lx.key cls tb)) m2
  simp only [List.map_map] at this
  rw [t2, u2]
  exact congrArg (· ++ [(0, [])]) this

theorem comp {τ : Type} {H : τ → Bytes → Bytes} (hG : Relayout G) (hH : Relayout H) :
    Relayout (fun (s : σ × τ) X => G s.1 (H s.2 X)) where
  nil s := by simp only [hH.nil, hG.nil]
  byte s b R hb := by
    obtain ⟨t', e⟩ := hH.byte s.2 b R hb
    obtain ⟨s', e'⟩ := hG.byte s.1 b (H t' R) hb
    exact ⟨(s', t'), by simp only [e, e']⟩
  solid s L R h1 h2 := by
    obtain ⟨t', e⟩ := hH.solid s.2 L R h1 h2
    obtain ⟨s', e'⟩ := hG.solid s.1 L (H t' R) h1 h2
    exact ⟨(s', t'), by simp only [e, e']⟩
  ws s w X hw := by
    obtain ⟨a, t', e, ha⟩ := hH.ws s.2 w X hw
    obtain ⟨a', s', e', ha'⟩ := hG.run a (H t' X) s.1 ha
    exact ⟨a', (s', t'), by simp only [e, e'], ha'⟩
  wsHead s w X hw := by
    rcases hH.wsHead s.2 w X hw with h | h
    · exact Or.inl (by simp only [h, hG.nil])
    · obtain ⟨w2, Y, e, hw2⟩ := headWS_cons h
      exact e ▸ hG.wsHead s.1 w2 Y hw2

end Relayout

end GoSQLXModel.Lex
