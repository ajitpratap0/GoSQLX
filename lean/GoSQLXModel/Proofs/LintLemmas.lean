import GoSQLXModel.Model.Lint
/-!
Lemmas about the lint rewriters.  A text is a line, or a line, a line feed and a text (`lines_induction`), and a fixer
that rewrites line by line follows these two cases (`mapLines_line`, `mapLines_more`): the split/join round trips, the
lifting of per-line facts, and the characterisations of L001 and L002 as one pass over the characters (`trimC`, `expC`),
on which most of their properties are then immediate, all come from that.
-/
namespace GoSQLXModel.Lint

theorem splitLines_of_no_nl (l : List Char) (h : '\n' ∉ l) : splitLines l = [l] := by
  induction l with
  | nil => rfl
  | cons c cs ih =>
    have hc : c ≠ '\n' := fun e => h (by simp [e])
    simp [splitLines, hc, ih (fun e => h (by simp [e]))]

theorem splitLines_append_nl (l : List Char) (rest : List Char) (h : '\n' ∉ l) :
    splitLines (l ++ '\n' :: rest) = l :: splitLines rest := by
  induction l with
  | nil => simp [splitLines]
  | cons c cs ih =>
    have hc : c ≠ '\n' := fun e => h (by simp [e])
    simp [splitLines, hc, ih (fun e => h (by simp [e]))]

theorem lines_induction {P : List Char → Prop} (line : ∀ l, '\n' ∉ l → P l)
    (more : ∀ l t, '\n' ∉ l → P t → P (l ++ '\n' :: t)) (s : List Char) : P s := by
  -- `pre`: the part of the current line already passed
  suffices ∀ pre, '\n' ∉ pre → P (pre ++ s) from this [] (by simp)
  induction s with
  | nil => intro pre h; simpa using line pre h
  | cons c cs ih =>
    intro pre h
    by_cases hc : c = '\n'
    · exact hc ▸ more pre cs h (ih [] (by simp))
    · simpa using ih (pre ++ [c]) (by simp [h, Ne.symm hc])

theorem splitLines_ne_nil (t : List Char) : splitLines t ≠ [] := by
  induction t using lines_induction with
  | line l h => simp [splitLines_of_no_nl l h]
  | more l t h _ => simp [splitLines_append_nl l t h]

theorem splitLines_no_nl (t : List Char) : ∀ l ∈ splitLines t, '\n' ∉ l := by
  induction t using lines_induction with
  | line l h => simpa [splitLines_of_no_nl l h] using h
  | more l t h ih => simpa [splitLines_append_nl l t h, h] using ih

theorem joinLines_cons (l : List Char) (ls : List (List Char)) (h : ls ≠ []) :
    joinLines (l :: ls) = l ++ '\n' :: joinLines ls := by
  cases ls with
  | nil => exact absurd rfl h
  | cons a as => rfl

theorem joinLines_cons_cons (c : Char) (x : List Char) (rest : List (List Char)) :
    joinLines ((c :: x) :: rest) = c :: joinLines (x :: rest) := by
  cases rest <;> rfl

/-- `strings.Join(strings.Split(s, "\n"), "\n") = s` -/
theorem join_split (t : List Char) : joinLines (splitLines t) = t := by
  induction t using lines_induction with
  | line l h => rw [splitLines_of_no_nl l h]; rfl
  | more l t h ih => rw [splitLines_append_nl l t h, joinLines_cons _ _ (splitLines_ne_nil t), ih]

/-- `strings.Split(strings.Join(lines, "\n"), "\n") = lines` for line-feed-free lines -/
theorem split_join (ls : List (List Char)) (hne : ls ≠ []) (h : ∀ l ∈ ls, '\n' ∉ l) : splitLines (joinLines ls) = ls := by
  induction ls with
  | nil => exact absurd rfl hne
  | cons l ls ih =>
    cases ls with
    | nil => simpa [joinLines] using splitLines_of_no_nl l (h l (by simp))
    | cons a as =>
      rw [joinLines_cons _ _ (by simp), splitLines_append_nl _ _ (h l (by simp))]
      rw [ih (by simp) (fun x hx => h x (by simp [hx]))]

theorem mapLines_line (f : List Char → List Char) {l : List Char} (h : '\n' ∉ l) : joinLines ((splitLines l).map f) = f l := by
  rw [splitLines_of_no_nl l h]; rfl

theorem mapLines_more (f : List Char → List Char) {l : List Char} (t : List Char) (h : '\n' ∉ l) :
    joinLines ((splitLines (l ++ '\n' :: t)).map f) = f l ++ '\n' :: joinLines ((splitLines t).map f) := by
  rw [splitLines_append_nl l t h, List.map_cons, joinLines_cons _ _ (by simp [splitLines_ne_nil])]

theorem splitLines_mapLines (f : List Char → List Char) (hnl : ∀ l, '\n' ∉ l → '\n' ∉ f l) (s : List Char) :
    splitLines (joinLines ((splitLines s).map f)) = (splitLines s).map f := by
  apply split_join _ (by simp [splitLines_ne_nil])
  intro l hl
  obtain ⟨l0, hl0, rfl⟩ := List.mem_map.mp hl
  exact hnl l0 (splitLines_no_nl s l0 hl0)

/-- a per-line rewriter that never introduces a line feed commutes with split/join, hence the whole fixer is
    idempotent as soon as the line rewriter is -/
theorem map_fix_idempotent (f : List Char → List Char) (hnl : ∀ l, '\n' ∉ l → '\n' ∉ f l) (hid : ∀ l, f (f l) = f l)
    (s : List Char) :
    joinLines ((splitLines (joinLines ((splitLines s).map f))).map f) = joinLines ((splitLines s).map f) := by
  rw [splitLines_mapLines f hnl, List.map_map]
  congr 1
  exact List.map_congr_left fun l _ => hid l

theorem filter_mapLines (p : Char → Bool) (f : List Char → List Char) (hf : ∀ l, (f l).filter p = l.filter p) (s : List Char) :
    (joinLines ((splitLines s).map f)).filter p = s.filter p := by
  induction s using lines_induction with
  | line l h => rw [mapLines_line f h, hf]
  | more l t h ih => rw [mapLines_more f t h]; simp only [List.filter_append, List.filter_cons, hf, ih]

theorem sublist_mapLines (f : List Char → List Char) (hf : ∀ l, (f l).Sublist l) (s : List Char) :
    (joinLines ((splitLines s).map f)).Sublist s := by
  induction s using lines_induction with
  | line l h => rw [mapLines_line f h]; exact hf l
  | more l t h ih => rw [mapLines_more f t h]; exact (hf l).append (ih.cons_cons _)

theorem blank_cases (c : Char) : c = '\t' ∨ c = ' ' ∨ isBlankChar c = false := by
  by_cases h1 : c = '\t'
  · exact .inl h1
  · by_cases h2 : c = ' '
    · exact .inr (.inl h2)
    · exact .inr (.inr (by simp [isBlankChar, h1, h2]))

theorem head_dropWhile_false {α} (p : α → Bool) (l : List α) (c : α) (h : (l.dropWhile p).head? = some c) : p c = false := by
  have := List.head?_dropWhile_not p l
  rwa [h] at this

theorem all_of_dropWhile_nil {α} (p : α → Bool) (l : List α) (h : l.dropWhile p = []) : ∀ x ∈ l, p x = true := by
  have := @List.any_dropWhile _ p l
  simpa [h] using this

theorem leadingWs_append_trimLeft (l : List Char) : leadingWs l ++ trimLeft l = l :=
  List.takeWhile_append_dropWhile

theorem leadingWs_blank (l : List Char) : ∀ c ∈ leadingWs l, isBlankChar c = true :=
  List.all_eq_true.1 List.all_takeWhile

theorem trimLeft_head (l : List Char) : ∀ c, (trimLeft l).head? = some c → isBlankChar c = false :=
  head_dropWhile_false isBlankChar l

theorem trimRight_idem (l : List Char) : trimRight (trimRight l) = trimRight l := by
  unfold trimRight
  rw [List.reverse_reverse]
  cases h : l.reverse.dropWhile isBlankChar with
  | nil => rfl
  | cons a as => rw [List.dropWhile_cons_of_neg (by simp [head_dropWhile_false isBlankChar l.reverse a (by rw [h]; rfl)])]

theorem trimRight_sublist (l : List Char) : (trimRight l).Sublist l := by
  simpa [trimRight] using (List.dropWhile_sublist isBlankChar (l := l.reverse)).reverse

theorem trimRight_no_nl (l : List Char) (h : '\n' ∉ l) : '\n' ∉ trimRight l :=
  fun hm => h ((trimRight_sublist l).subset hm)

/-- after L001 no line ends in a blank -/
theorem trimRight_last (l : List Char) : ∀ c, (trimRight l).getLast? = some c → isBlankChar c = false := by
  intro c hc
  simp only [trimRight, List.getLast?_reverse] at hc
  exact head_dropWhile_false isBlankChar l.reverse c hc

theorem trimRight_cons (c : Char) (l : List Char) :
    trimRight (c :: l) = if isBlankChar c && (trimRight l).isEmpty then [] else c :: trimRight l := by
  unfold trimRight
  simp only [List.reverse_cons]
  cases h : (l.reverse.dropWhile isBlankChar) with
  | nil =>
    rw [List.dropWhile_append_of_pos (all_of_dropWhile_nil _ _ h)]
    by_cases hc : isBlankChar c = true <;> simp [List.dropWhile, hc]
  | cons a as =>
    rw [List.dropWhile_append, h]
    simp

/-- trailing-blank removal without lines: drop a blank when the trimmed remainder is empty or starts a new line -/
def trimC : List Char → List Char
  | [] => []
  | c :: cs =>
    let r := trimC cs
    if isBlankChar c && (r.isEmpty || r.head? == some '\n') then r else c :: r

theorem trimC_nl (t : List Char) : trimC ('\n' :: t) = '\n' :: trimC t := by
  simp [trimC, isBlankChar]

/-- up to the end of a line `trimC` is `trimRight` -/
theorem trimC_append (t : List Char) (ht : t = [] ∨ ∃ t', t = '\n' :: t') :
    ∀ l : List Char, '\n' ∉ l → trimC (l ++ t) = trimRight l ++ trimC t
  | [], _ => rfl
  | c :: l, h => by
    have hl : '\n' ∉ l := fun e => h (List.mem_cons_of_mem _ e)
    -- what remains is empty or starts a line exactly when the rest of this line is blank
    have key : ((trimRight l ++ trimC t).isEmpty || (trimRight l ++ trimC t).head? == some '\n') = (trimRight l).isEmpty := by
      cases hr : trimRight l with
      | nil => rcases ht with rfl | ⟨t', rfl⟩ <;> simp [trimC, isBlankChar]
      | cons a as =>
        have : a ≠ '\n' := fun e => trimRight_no_nl l hl (by rw [hr, e]; exact List.mem_cons_self)
        simp [this]
    simp only [List.cons_append, trimC, trimC_append t ht l hl, key, trimRight_cons]
    split
    · rename_i hb
      rw [List.isEmpty_iff.1 (Bool.and_eq_true_iff.1 hb).2]
    · rfl

theorem fixL001_eq_trimC (s : List Char) : fixL001 s = trimC s := by
  unfold fixL001
  induction s using lines_induction with
  | line l h => rw [mapLines_line trimRight h]; simpa [trimC] using (trimC_append [] (.inl rfl) l h).symm
  | more l t h ih => rw [mapLines_more trimRight t h, ih, trimC_append _ (.inr ⟨t, rfl⟩) l h, trimC_nl]

theorem fixLineL002_eq (l : List Char) : fixLineL002 l = expandTabs (leadingWs l) ++ trimLeft l := by
  unfold fixLineL002
  split
  · rename_i h
    have h2 := leadingWs_append_trimLeft l
    rw [List.isEmpty_iff.1 h] at h2 ⊢
    simpa [expandTabs] using h2.symm
  · rfl

theorem fixLineL002_tab (l : List Char) : fixLineL002 ('\t' :: l) = ' ' :: ' ' :: ' ' :: ' ' :: fixLineL002 l := by
  rw [fixLineL002_eq, fixLineL002_eq]
  simp [leadingWs, trimLeft, isBlankChar, expandTabs, List.takeWhile, List.dropWhile]

theorem fixLineL002_space (l : List Char) : fixLineL002 (' ' :: l) = ' ' :: fixLineL002 l := by
  rw [fixLineL002_eq, fixLineL002_eq]
  simp [leadingWs, trimLeft, isBlankChar, expandTabs, List.takeWhile, List.dropWhile]

theorem fixLineL002_other (c : Char) (l : List Char) (h : isBlankChar c = false) : fixLineL002 (c :: l) = c :: l := by
  unfold fixLineL002
  simp [leadingWs, List.takeWhile, h]

theorem fixLineL002_no_nl : ∀ l : List Char, '\n' ∉ l → '\n' ∉ fixLineL002 l
  | [], h => h
  | c :: l, h => by
    have ih := fixLineL002_no_nl l (fun e => h (List.mem_cons_of_mem _ e))
    rcases blank_cases c with rfl | rfl | hc
    · simpa [fixLineL002_tab] using ih
    · simpa [fixLineL002_space] using ih
    · rwa [fixLineL002_other c l hc]

theorem fixLineL002_idem : ∀ l : List Char, fixLineL002 (fixLineL002 l) = fixLineL002 l
  | [] => rfl
  | c :: l => by
    rcases blank_cases c with rfl | rfl | hc
    · simp only [fixLineL002_tab, fixLineL002_space, fixLineL002_idem l]
    · simp only [fixLineL002_space, fixLineL002_idem l]
    · rw [fixLineL002_other c l hc, fixLineL002_other c l hc]

/-- tabs of the leading whitespace of every line become four spaces; `st`: still in the leading whitespace -/
def expC : Bool → List Char → List Char
  | _, [] => []
  | st, c :: cs =>
    if st && c = '\t' then ' ' :: ' ' :: ' ' :: ' ' :: expC true cs
    else if st && c = ' ' then ' ' :: expC true cs
    else c :: expC (c = '\n') cs

/-- the first line as it is, the others fixed -/
def restFixed : List (List Char) → List (List Char)
  | [] => []
  | l :: ls => l :: ls.map fixLineL002

theorem expC_nl (st : Bool) (t : List Char) : expC st ('\n' :: t) = '\n' :: expC true t := by
  simp [expC]

/-- along a line `expC` fixes the line, or copies it once the leading whitespace is over -/
theorem expC_append (t : List Char) : ∀ (l : List Char) (st : Bool), '\n' ∉ l →
    expC st (l ++ t) = (if st then fixLineL002 l else l) ++ expC (st && l.all isBlankChar) t
  | [], st, _ => by cases st <;> rfl
  | c :: l, st, h => by
    have hc : c ≠ '\n' := fun e => h (e ▸ List.mem_cons_self)
    have ih := fun st' => expC_append t l st' (fun e => h (List.mem_cons_of_mem _ e))
    cases st with
    | false => simp [expC, ih, hc]
    | true =>
      rcases blank_cases c with rfl | rfl | hb
      · simp [expC, ih, fixLineL002_tab, isBlankChar]
      · simp [expC, ih, fixLineL002_space, isBlankChar]
      · have : c ≠ ' ' ∧ c ≠ '\t' := by simpa [isBlankChar] using hb
        simp [expC, ih, this, hc, hb, fixLineL002_other c l hb]

/-- The second conjunct (the first line is past its leading whitespace, the others are fixed) is there for the induction
    over lines, which meets `expC` from both start states. -/
theorem fixL002_eq_expC (s : List Char) :
    fixL002 s = expC true s ∧ joinLines (restFixed (splitLines s)) = expC false s := by
  unfold fixL002
  induction s using lines_induction with
  | line l h =>
    have e := fun st => expC_append [] l st h
    simp only [List.append_nil, expC] at e
    rw [mapLines_line _ h, splitLines_of_no_nl l h, e true, e false]
    exact ⟨rfl, rfl⟩
  | more l t h ih =>
    have e := fun st => expC_append ('\n' :: t) l st h
    simp only [expC_nl] at e
    rw [mapLines_more _ t h, splitLines_append_nl l t h, e true, e false, ← ih.1]
    exact ⟨rfl, joinLines_cons _ _ (by simp [splitLines_ne_nil])⟩

theorem expC_idem (st : Bool) (s : List Char) : expC st (expC st s) = expC st s := by
  induction s generalizing st with
  | nil => cases st <;> rfl
  | cons c cs ih =>
    cases st with
    | false => simp [expC, ih]
    | true => by_cases h1 : c = '\t' <;> by_cases h2 : c = ' ' <;> simp [expC, h1, h2, ih]

/-! ### L010: the collapse transducer is idempotent from every state -/
theorem collapseGo_idem (l : List Char) (inS : Bool) (q : Char) (prev : Bool) :
    collapseGo inS q prev (collapseGo inS q prev l) = collapseGo inS q prev l := by
  fun_induction collapseGo inS q prev l <;> simp [collapseGo, *]

theorem collapseGo_sublist (l : List Char) (inS : Bool) (q : Char) (prev : Bool) : (collapseGo inS q prev l).Sublist l := by
  fun_induction collapseGo inS q prev l <;> simp [*]

theorem collapseGo_head (c : Char) (cs : List Char) (h : isBlankChar c = false) :
    ∃ rest, collapseGo false '\x00' false (c :: cs) = c :: rest := by
  simp only [collapseGo]
  have hsp : c ≠ ' ' := by intro e; subst e; simp [isBlankChar] at h
  by_cases hq : c = '\'' ∨ c = '"'
  · simp [hq]
  · simp [hq, hsp]

theorem takeWhile_append_stop (p : Char → Bool) (a b : List Char) (ha : ∀ c ∈ a, p c = true)
    (hb : ∀ c, b.head? = some c → p c = false) : (a ++ b).takeWhile p = a ∧ (a ++ b).dropWhile p = b := by
  rw [List.takeWhile_append_of_pos ha, List.dropWhile_append_of_pos ha]
  cases b with
  | nil => simp
  | cons c cs => simp [List.takeWhile, List.dropWhile, hb c rfl]

theorem fixLineL010_idem (l : List Char) : fixLineL010 (fixLineL010 l) = fixLineL010 l := by
  unfold fixLineL010
  by_cases hb : l.all isBlankChar = true
  · have : (collapseGo false '\x00' false l).all isBlankChar = true :=
      List.all_eq_true.2 fun c hc => List.all_eq_true.1 hb c ((collapseGo_sublist ..).subset hc)
    simp only [hb, if_true, this, collapseGo_idem]
  · simp only [hb, if_false, Bool.false_eq_true]
    -- the trimmed part is non-empty and starts with a non-blank character, which is emitted as is
    have hne : trimLeft l ≠ [] := fun he => hb (List.all_eq_true.2 (all_of_dropWhile_nil isBlankChar l he))
    obtain ⟨c, cs, hcs⟩ := List.exists_cons_of_ne_nil hne
    have hcb : isBlankChar c = false := trimLeft_head l c (by simp [hcs])
    obtain ⟨rest, hrest⟩ := collapseGo_head c cs hcb
    obtain ⟨h1, h2⟩ := takeWhile_append_stop isBlankChar (leadingWs l) (collapseGo false '\x00' false (trimLeft l))
      (leadingWs_blank l) (by rw [hcs, hrest]; simp [hcb])
    change leadingWs _ = _ at h1
    change trimLeft _ = _ at h2
    have hnb : (leadingWs l ++ collapseGo false '\x00' false (trimLeft l)).all isBlankChar = false := by
      rw [hcs, hrest]
      simp [List.all_append, hcb]
    simp only [hnb, Bool.false_eq_true, if_false, h1, h2, collapseGo_idem]

theorem fixLineL010_sublist (l : List Char) : (fixLineL010 l).Sublist l := by
  unfold fixLineL010
  split
  · exact collapseGo_sublist l _ _ _
  · have := (List.Sublist.refl (leadingWs l)).append (collapseGo_sublist (trimLeft l) false '\x00' false)
    rwa [leadingWs_append_trimLeft] at this

theorem fixLineL010_no_nl (l : List Char) (h : '\n' ∉ l) : '\n' ∉ fixLineL010 l :=
  fun hm => h ((fixLineL010_sublist l).subset hm)

/-- characters consumed while the scan is inside a quoted stretch (including the closing quote) -/
def quotedOf : Bool → Char → List Char → List Char
  | _, _, [] => []
  | false, q, c :: cs => if c = '\'' ∨ c = '"' then quotedOf true c cs else quotedOf false q cs
  | true, q, c :: cs => if c = q then c :: quotedOf false '\x00' cs else c :: quotedOf true q cs

/-- the L010 rewriter leaves every stretch it regards as quoted byte-identical -/
theorem collapseGo_quoted (l : List Char) (inS : Bool) (q : Char) (prev : Bool) :
    quotedOf inS q (collapseGo inS q prev l) = quotedOf inS q l := by
  fun_induction collapseGo inS q prev l <;> simp [quotedOf, *]

end GoSQLXModel.Lint
