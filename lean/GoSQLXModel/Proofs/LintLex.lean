import GoSQLXModel.Proofs.LintLemmas
import GoSQLXModel.Proofs.LintLayout
/-!
# The trailing-whitespace fixer keeps the tokens (L001 against the tokenizer model)

`Lint.fixL001` without lines (`Lint.trimC`, `Lint.fixL001_eq_trimC`) drops a blank exactly when what remains after it,
once trimmed, is empty or begins with a line feed.  The same function over bytes (`trimB`) is a rewriter of blank runs
in the sense of `Proofs/LintLayout.lean` (`relayout_trimB`): solid stretches are copied, a blank goes only before a line
feed or the end of the text.  So `Relayout.keeps_tokens` applies: `fixL001_keeps_tokens`.  `seq_trim` is `Relayout.seq`
for L001: the fixed text is again a text of the reference grammar with the *same lexemes and the same comments*.
-/
namespace GoSQLXModel.Lex

def trimB : Bytes → Bytes
  | [] => []
  | b :: bs =>
    let r := trimB bs
    if isBlankB b && (r.isEmpty || r.head? == some 10) then r else b :: r

/-- a byte as the character with that code (what the linter sees when the text is ASCII), and back -/
def asChars (bs : Bytes) : List Char := bs.map fun b => Char.ofNat b.toNat
def asBytes (cs : List Char) : Bytes := cs.map fun c => UInt8.ofNat c.toNat

theorem ofByte_toNat (b : UInt8) : (Char.ofNat b.toNat).toNat = b.toNat := by
  have : b.toNat.isValidChar := Or.inl (by have := b.toNat_lt; omega)
  simp [Char.ofNat, this, Char.toNat, Char.ofNatAux]

theorem asBytes_asChars (bs : Bytes) : asBytes (asChars bs) = bs := by
  induction bs with
  | nil => rfl
  | cons b bs ih =>
    simp only [asChars, asBytes, List.map_cons] at ih ⊢
    rw [ofByte_toNat, UInt8.ofNat_toNat, ih]

theorem char_byte (b k : UInt8) : decide (Char.ofNat b.toNat = Char.ofNat k.toNat) = (b == k) := by
  by_cases h : b = k
  · simp [h]
  · have : Char.ofNat b.toNat ≠ Char.ofNat k.toNat := fun e =>
      h (by simpa [ofByte_toNat] using congrArg (fun c => UInt8.ofNat c.toNat) e)
    simp [h, this]

theorem blank_char_byte (b : UInt8) : Lint.isBlankChar (Char.ofNat b.toNat) = isBlankB b :=
  congr (congrArg or (char_byte b 32)) (char_byte b 9)

theorem trimC_asChars (bs : Bytes) : Lint.trimC (asChars bs) = asChars (trimB bs) := by
  induction bs with
  | nil => rfl
  | cons b bs ih =>
    simp only [asChars, List.map_cons] at ih ⊢
    simp only [Lint.trimC, trimB, ih, blank_char_byte]
    have hh : (((trimB bs).map fun b => Char.ofNat b.toNat).head? == some '\n') = ((trimB bs).head? == some 10) := by
      cases trimB bs with
      | nil => rfl
      | cons x xs => exact char_byte x 10
    rw [List.isEmpty_map, hh]
    split <;> simp

theorem fixL001_bytes (bs : Bytes) : asBytes (Lint.fixL001 (asChars bs)) = trimB bs := by
  rw [Lint.fixL001_eq_trimC, trimC_asChars, asBytes_asChars]

theorem trimB_length (bs : Bytes) : (trimB bs).length ≤ bs.length := by
  induction bs with
  | nil => simp [trimB]
  | cons b bs ih =>
    simp only [trimB]
    split <;> simp only [List.length_cons] <;> omega

theorem trimB_cons (b : UInt8) (rest : Bytes) :
    trimB (b :: rest) = if isBlankB b && ((trimB rest).isEmpty || (trimB rest).head? == some 10) then trimB rest else b :: trimB rest := rfl

theorem trimB_cons_nonblank (b : UInt8) (rest : Bytes) (h : isBlankB b = false) : trimB (b :: rest) = b :: trimB rest := by
  simp [trimB, h]

theorem trimB_solid : ∀ (L R : Bytes), solidB L = true → trimB (L ++ R) = L ++ trimB R
  | [], _, h => by cases h
  | [b], R, h => trimB_cons_nonblank b R (by simp [solidB] at h; exact h.2)
  | b :: c :: L, R, h => by
    have hc := solidB_no_nl (solidB_tail h)
    simp only [List.all_cons, Bool.and_eq_true, bne_iff_ne] at hc
    -- the trimmed remainder begins with `c`, which is no line feed, so `b` stays
    rw [List.cons_append, trimB_cons, trimB_solid (c :: L) R (solidB_tail h)]
    simp [hc.1]

theorem relayout_trimB : Relayout (fun (_ : Unit) => trimB) where
  nil _ := rfl
  byte _ b R hb := ⟨(), trimB_cons_nonblank b R hb⟩
  solid _ L R h _ := ⟨(), trimB_solid L R h⟩
  ws _ w X hw := by
    refine ⟨if isBlankB w && ((trimB X).isEmpty || (trimB X).head? == some 10) then [] else [w], (), ?_, ?_⟩
    · rw [trimB_cons]; split <;> rfl
    · split <;> simp [hw]
  wsHead _ w X hw := by
    rw [trimB_cons]
    split
    · -- a dropped blank: nothing is left, or a line feed stands first
      rename_i h
      cases hr : trimB X with
      | nil => exact Or.inl rfl
      | cons c r => simp [hr] at h; exact Or.inr (h.2 ▸ rfl)
    · exact Or.inr hw

theorem seq_trim (cls : CharClass) (tb : Tables) (hA : AsciiOK cls) (hops : opsNoWS tb = true) :
    ∀ items : List Item2, seqOK cls tb items = true → tameSeq cls tb items = true →
    ∃ items', trimB (flat2 items) = flat2 items' ∧ seqOK cls tb items' = true ∧
      items'.map (·.1) = items.map (·.1) ∧ itemsComments items' = itemsComments items ∧ tameSeq cls tb items' = true :=
  fun items => relayout_trimB.seq cls tb hA hops items ()

/-- **L001 keeps the tokens**: for every tame text of the reference grammar (lexemes on one line; comments on one line,
    a line comment not ending in a blank; a blank run written as one piece), the text after the trailing-whitespace
    fixer is read as the same sequence of (kind, value) pairs and the same comments -/
theorem fixL001_keeps_tokens (cls : CharClass) (tb : Tables) (hA : AsciiOK cls) (hops : opsNoWS tb = true)
    (lead : List Piece) (items : List Item2)
    (hlead : lead.all Piece.ok = true) (hleadT : lead.all Piece.tame = true) (_hleadN : sepNorm lead = true)
    (hok : seqOK cls tb items = true) (htame : tameSeq cls tb items = true)
    (hsize : (sepBytes lead ++ flat2 items).length ≤ tb.maxInput) (hcount : items.length ≤ tb.maxTokens) :
    ∃ toks cs toks' cs', tokenize cls tb (sepBytes lead ++ flat2 items) = .ok toks cs ∧
      tokenize cls tb (asBytes (Lint.fixL001 (asChars (sepBytes lead ++ flat2 items)))) = .ok toks' cs' ∧
      toks'.map Tok.key = toks.map Tok.key ∧ cs'.map Comment.key = cs.map Comment.key := by
  rw [fixL001_bytes]
  exact relayout_trimB.keeps_tokens cls tb hA hops () lead items hlead hleadT hok htame hsize
    (Nat.le_trans (trimB_length _) hsize) hcount

end GoSQLXModel.Lex
