import GoSQLXModel.Proofs.LintLex
/-!
# The mixed-indentation fixer keeps the tokens (L002 against the tokenizer model)

`Lint.fixL002` rewrites, line by line, the tabs of the leading whitespace into four spaces.  Without lines
(`Lint.expC`, `Lint.fixL002_eq_expC`): a left-to-right pass with one bit of state, "still in the leading whitespace of a line".
Over bytes (`expB`) it is a rewriter of blank runs (`relayout_expB`) that only lengthens them, so
`Relayout.keeps_tokens` applies: `fixL002_keeps_tokens`; and to L001 followed by L002, since such rewriters compose.
-/
namespace GoSQLXModel.Lex

def expB : Bool → Bytes → Bytes
  | _, [] => []
  | st, b :: bs =>
    if st && b == 9 then 32 :: 32 :: 32 :: 32 :: expB true bs
    else if st && b == 32 then 32 :: expB true bs
    else b :: expB (b == 10) bs

theorem expC_asChars : ∀ (bs : Bytes) (st : Bool), Lint.expC st (asChars bs) = asChars (expB st bs)
  | [], st => by cases st <;> rfl
  | b :: bs, st => by
    have h1 : decide (Char.ofNat b.toNat = '\t') = (b == 9) := char_byte b 9
    have h2 : decide (Char.ofNat b.toNat = ' ') = (b == 32) := char_byte b 32
    have h3 : decide (Char.ofNat b.toNat = '\n') = (b == 10) := char_byte b 10
    have ih := fun st' => expC_asChars bs st'
    simp only [asChars, List.map_cons] at ih ⊢
    simp only [Lint.expC, expB, h1, h2, h3, ih]
    split
    · rfl
    · split <;> rfl

theorem fixL002_bytes (bs : Bytes) : asBytes (Lint.fixL002 (asChars bs)) = expB true bs := by
  rw [(Lint.fixL002_eq_expC _).1, expC_asChars, asBytes_asChars]

theorem expB_false_noNl : ∀ (L R : Bytes), L.all (· != 10) = true → expB false (L ++ R) = L ++ expB false R
  | [], _, _ => rfl
  | b :: L, R, h => by
    simp only [List.all_cons, Bool.and_eq_true, bne_iff_ne] at h
    have e : expB false (b :: (L ++ R)) = b :: expB (b == 10) (L ++ R) := rfl
    rw [List.cons_append, e, beq_false_of_ne h.1, expB_false_noNl L R h.2]; rfl

theorem expB_nonblank (st : Bool) (b : UInt8) (R : Bytes) (hb : isBlankB b = false) : expB st (b :: R) = b :: expB (b == 10) R := by
  simp only [isBlankB, Bool.or_eq_false_iff] at hb
  simp [expB, hb.1, hb.2]

theorem relayout_expB : Relayout expB where
  nil st := by cases st <;> rfl
  byte st b R hb := ⟨b == 10, expB_nonblank st b R hb⟩
  solid st L R h1 h2 := by
    -- the first byte ends the leading whitespace, and there is no line feed to start it again
    cases L with
    | nil => simp [solidB] at h1
    | cons b L =>
      have hn := solidB_no_nl h1
      simp only [List.all_cons, Bool.and_eq_true, bne_iff_ne] at hn
      refine ⟨false, ?_⟩
      rw [List.cons_append, expB_nonblank st b _ (not_blank_of_not_ws h2), beq_false_of_ne hn.1, expB_false_noNl L R hn.2]
      rfl
  ws st w X hw := by
    simp only [expB]
    split
    · exact ⟨[32, 32, 32, 32], true, rfl, rfl⟩
    · split
      · exact ⟨[32], true, rfl, rfl⟩
      · exact ⟨[w], w == 10, rfl, by simp [hw]⟩
  wsHead st w X hw := by
    simp only [expB]
    split
    · exact Or.inr rfl
    · split
      · exact Or.inr rfl
      · exact Or.inr hw

theorem expB_length_le (st : Bool) (bs : Bytes) : (expB st bs).length ≤ 4 * bs.length := by
  fun_induction expB st bs <;> simp only [List.length_cons, List.length_nil] <;> omega

/-- **L002 keeps the tokens**: for every tame text of the reference grammar (four times its length within the size
    limit: every tab may become four spaces) the text after the mixed-indentation fixer is read as the same sequence of
    (kind, value) pairs and the same comments -/
theorem fixL002_keeps_tokens (cls : CharClass) (tb : Tables) (hA : AsciiOK cls) (hops : opsNoWS tb = true)
    (lead : List Piece) (items : List Item2)
    (hlead : lead.all Piece.ok = true) (hleadT : lead.all Piece.tame = true)
    (hok : seqOK cls tb items = true) (htame : tameSeq cls tb items = true)
    (hsize : 4 * (sepBytes lead ++ flat2 items).length ≤ tb.maxInput) (hcount : items.length ≤ tb.maxTokens) :
    ∃ toks cs toks' cs', tokenize cls tb (sepBytes lead ++ flat2 items) = .ok toks cs ∧
      tokenize cls tb (asBytes (Lint.fixL002 (asChars (sepBytes lead ++ flat2 items)))) = .ok toks' cs' ∧
      toks'.map Tok.key = toks.map Tok.key ∧ cs'.map Comment.key = cs.map Comment.key := by
  rw [fixL002_bytes]
  exact relayout_expB.keeps_tokens cls tb hA hops true lead items hlead hleadT hok htame (by omega)
    (Nat.le_trans (expB_length_le _ _) hsize) hcount

/-- **the two fixers in sequence** (the order in which the CLI applies them): the text after L001 and then L002 is
    still read as the same (kind, value) sequence and the same comments -/
theorem fixL001_then_L002_keeps_tokens (cls : CharClass) (tb : Tables) (hA : AsciiOK cls) (hops : opsNoWS tb = true)
    (lead : List Piece) (items : List Item2)
    (hlead : lead.all Piece.ok = true) (hleadT : lead.all Piece.tame = true) (_hleadN : sepNorm lead = true)
    (hok : seqOK cls tb items = true) (htame : tameSeq cls tb items = true)
    (hsize : 4 * (sepBytes lead ++ flat2 items).length ≤ tb.maxInput) (hcount : items.length ≤ tb.maxTokens) :
    ∃ toks cs toks' cs', tokenize cls tb (sepBytes lead ++ flat2 items) = .ok toks cs ∧
      tokenize cls tb (asBytes (Lint.fixL002 (Lint.fixL001 (asChars (sepBytes lead ++ flat2 items))))) = .ok toks' cs' ∧
      toks'.map Tok.key = toks.map Tok.key ∧ cs'.map Comment.key = cs.map Comment.key := by
  rw [Lint.fixL001_eq_trimC, trimC_asChars, fixL002_bytes]
  have hlen := Nat.le_trans (expB_length_le true _) (Nat.mul_le_mul_left 4 (trimB_length (sepBytes lead ++ flat2 items)))
  exact (relayout_expB.comp relayout_trimB).keeps_tokens cls tb hA hops (true, ()) lead items hlead hleadT hok htame
    (by omega) (Nat.le_trans hlen hsize) hcount

end GoSQLXModel.Lex
