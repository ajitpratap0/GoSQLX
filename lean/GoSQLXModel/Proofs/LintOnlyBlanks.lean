import GoSQLXModel.Proofs.LintLemmas
/-!
# The whitespace fixers touch nothing but blanks — for every text

For **every** text (not only tame reference-grammar texts; whatever its quotes, comments and line structure):
* `fixL001_keeps_nonblanks`, `fixL010_keeps_nonblanks` — the sequence of non-blank characters (everything except
  space and tab; line feeds included) of the output is that of the input: no character of a word, number, operator,
  quote or comment marker is added, removed or reordered, and the line structure is unchanged;
* `fixL001_sublist`, `fixL010_sublist` — the output is a subsequence of the input: these fixers only delete;
* `fixL002_keeps_nonblanks` — L002 (tabs of the indentation → four spaces) likewise leaves the non-blank sequence alone.
What such a deletion does to the tokens is not settled here: nothing on tame texts (`Props.C17.l001_keeps_tokens`, from
`Proofs/LintLex.lean`), while the counterexamples of `Props/C17.lean` show blanks deleted inside a literal.
-/
namespace GoSQLXModel.Lint

def nonBlank (c : Char) : Bool := !isBlankChar c

theorem filter_dropWhile_not {α} (p : α → Bool) : ∀ l : List α, (l.dropWhile p).filter (fun c => !p c) = l.filter (fun c => !p c)
  | [] => rfl
  | a :: l => by
    by_cases h : p a = true
    · simp [h, filter_dropWhile_not p l]
    · simp [h]

theorem trimRight_nonblank (l : List Char) : (trimRight l).filter nonBlank = l.filter nonBlank := by
  unfold trimRight nonBlank
  rw [List.filter_reverse, filter_dropWhile_not, ← List.filter_reverse, List.reverse_reverse]

theorem fixL001_keeps_nonblanks (s : List Char) : (fixL001 s).filter nonBlank = s.filter nonBlank :=
  filter_mapLines nonBlank trimRight trimRight_nonblank s

theorem fixL001_sublist (s : List Char) : (fixL001 s).Sublist s :=
  sublist_mapLines trimRight trimRight_sublist s

theorem expandTabs_nonblank (ws : List Char) : (expandTabs ws).filter nonBlank = ws.filter nonBlank := by
  induction ws with
  | nil => rfl
  | cons c ws ih =>
    simp only [expandTabs, List.flatMap_cons, List.filter_append] at ih ⊢
    rw [ih]
    split
    · rename_i h; subst h; rfl
    · exact (List.filter_append ..).symm

theorem fixLineL002_nonblank (l : List Char) : (fixLineL002 l).filter nonBlank = l.filter nonBlank := by
  rw [fixLineL002_eq, List.filter_append, expandTabs_nonblank, ← List.filter_append, leadingWs_append_trimLeft]

theorem fixL002_keeps_nonblanks (s : List Char) : (fixL002 s).filter nonBlank = s.filter nonBlank :=
  filter_mapLines nonBlank fixLineL002 fixLineL002_nonblank s

theorem collapseGo_nonblank (l : List Char) (inS : Bool) (q : Char) (prev : Bool) :
    (collapseGo inS q prev l).filter nonBlank = l.filter nonBlank := by
  fun_induction collapseGo inS q prev l <;> simp [List.filter_cons, *] <;> rfl

theorem fixLineL010_nonblank (l : List Char) : (fixLineL010 l).filter nonBlank = l.filter nonBlank := by
  unfold fixLineL010
  split
  · exact collapseGo_nonblank l _ _ _
  · rw [List.filter_append, collapseGo_nonblank, ← List.filter_append, leadingWs_append_trimLeft]

theorem fixL010_keeps_nonblanks (s : List Char) : (fixL010 s).filter nonBlank = s.filter nonBlank :=
  filter_mapLines nonBlank fixLineL010 fixLineL010_nonblank s

theorem fixL010_sublist (s : List Char) : (fixL010 s).Sublist s :=
  sublist_mapLines fixLineL010 fixLineL010_sublist s

end GoSQLXModel.Lint
