import GoSQLXModel.Model.LspServer
/-!
# The document store as a map; documents do not interfere

`Docs` is the association list the model of `DocumentManager` keeps.  With the four map laws, an operation on one URI
leaves every other copy alone, so after any history the copy of a document is `docAfter` of what the store held for it
and of that document's own operations in order (`run_get_eq_docAfter`): the simplest specification there is.  The store
never holds two copies of one document (`keys_nodup`).
-/
namespace GoSQLXModel.Lsp

def DocOp.uri : DocOp → String
  | .open_ u _ => u
  | .change u _ => u
  | .close u => u

theorem Docs.get_set_same (d : Docs) (u : String) (t : List Char) : (d.set u t).get u = some t := by
  simp [Docs.get, Docs.set]

theorem Docs.get_del_other (d : Docs) (u v : String) (h : u ≠ v) : (d.del u).get v = d.get v := by
  unfold Docs.get Docs.del
  rw [List.find?_filter]
  congr 2
  funext a
  by_cases hv : a.1 = v <;> simp [hv, Ne.symm h]

theorem Docs.get_set_other (d : Docs) (u v : String) (t : List Char) (h : u ≠ v) : (d.set u t).get v = d.get v := by
  rw [← Docs.get_del_other d u v h, Docs.get, Docs.set, List.find?_cons_of_neg (by simpa using h)]
  rfl

theorem Docs.get_del_same (d : Docs) (u : String) : (d.del u).get u = none := by
  simp [Docs.get, Docs.del, List.find?_eq_none]

/-- what one operation does to the copy of the document it names -/
def docStep (cur : Option (List Char)) : DocOp → Option (List Char)
  | .open_ _ t => some t
  | .close _ => none
  | .change _ cs => cur.map (fun c => Spec.update c cs)

/-- the copy of one document after its own operations, in order -/
def docAfter (cur : Option (List Char)) (ops : List DocOp) : Option (List Char) := ops.foldl docStep cur

theorem step_same (d : Docs) (op : DocOp) : (Spec.step d op).get op.uri = docStep (d.get op.uri) op := by
  cases op with
  | open_ u t => exact Docs.get_set_same d u t
  | close u => exact Docs.get_del_same d u
  | change u cs =>
    simp only [Spec.step, DocOp.uri, docStep]
    cases h : d.get u <;> simp [h, Docs.get_set_same]

theorem step_other (d : Docs) (op : DocOp) (v : String) (h : op.uri ≠ v) : (Spec.step d op).get v = d.get v := by
  cases op with
  | open_ u t => exact Docs.get_set_other d u v t h
  | close u => exact Docs.get_del_other d u v h
  | change u cs =>
    simp only [Spec.step]
    cases d.get u with
    | none => rfl
    | some c => exact Docs.get_set_other d u v _ h

/-- **the copy of a document is a function of its own history** -/
theorem run_get_eq_docAfter (d : Docs) (ops : List DocOp) (v : String) :
    (Spec.run d ops).get v = docAfter (d.get v) (ops.filter (fun op => op.uri == v)) := by
  induction ops generalizing d with
  | nil => rfl
  | cons op ops ih =>
    simp only [Spec.run, List.foldl_cons] at ih ⊢
    rw [ih]
    by_cases h : op.uri = v
    · subst h
      simp [docAfter, step_same]
    · simp [h, step_other d op v h]

/-- operations on other documents are invisible to this one -/
theorem run_independent (d : Docs) (ops : List DocOp) (v : String) :
    (Spec.run d ops).get v = (Spec.run d (ops.filter (fun op => op.uri == v))).get v := by
  rw [run_get_eq_docAfter, run_get_eq_docAfter, List.filter_filter]
  simp

/-- the same through the code-shaped model: it does not panic and serves the per-document specification -/
theorem code_run_get (d : Docs) (ops : List DocOp) (v : String) :
    (Code.run d ops).map (fun s => s.get v) = some (docAfter (d.get v) (ops.filter (fun op => op.uri == v))) := by
  rw [mirror_refines_spec, Option.map_some, run_get_eq_docAfter]

def Docs.Uniq (d : Docs) : Prop := (d.map (·.1)).Nodup

theorem Docs.uniq_filter (d : Docs) (p : String × List Char → Bool) (h : d.Uniq) : Docs.Uniq (d.filter p) := by
  unfold Docs.Uniq at *
  exact List.Nodup.sublist (List.Sublist.map _ List.filter_sublist) h

theorem Docs.uniq_set (d : Docs) (u : String) (t : List Char) (h : d.Uniq) : (d.set u t).Uniq :=
  List.nodup_cons.mpr ⟨by simp [List.mem_map, List.mem_filter], Docs.uniq_filter d _ h⟩

theorem step_uniq (d : Docs) (op : DocOp) (h : d.Uniq) : (Spec.step d op).Uniq := by
  cases op with
  | open_ u t => exact Docs.uniq_set d u t h
  | close u => exact Docs.uniq_filter d _ h
  | change u cs =>
    simp only [Spec.step]
    cases d.get u with
    | none => exact h
    | some c => exact Docs.uniq_set d u _ h

theorem keys_nodup (ops : List DocOp) : (Spec.run [] ops).Uniq := by
  suffices ∀ d : Docs, d.Uniq → (Spec.run d ops).Uniq from this [] (by simp [Docs.Uniq])
  induction ops with
  | nil => exact fun d h => h
  | cons op ops ih => exact fun d h => ih _ (step_uniq d op h)

end GoSQLXModel.Lsp
