import GoSQLXModel.Model.Metrics
/-!
# The compare-and-swap update makes progress; a finishing schedule always exists

A recorder that starts and runs two micro-steps without interference has finished (load, then a compare-and-swap that
cannot fail because nobody changed the value; one that holds a stale snapshot needs a third step).  Running the recorders one after the other is
therefore a schedule that completes all of them: the hypothesis "all threads have finished" of `cas_exact` /
`max_exact` / `min_exact` can be met for every workload.
-/
namespace GoSQLXModel.Metrics
variable {V : Type} [DecidableEq V]

theorem solo_finishes (rank : V → Nat) (cur : V) (t : Thr V) (h : t.pc = .start) :
    (stepThr rank true (stepThr rank true cur t).1 (stepThr rank true cur t).2).2.pc = .fin := by
  unfold stepThr
  rw [h]
  by_cases hr : rank cur < rank t.val <;> simp [hr]

theorem run_shift (rank : V → Nat) (cas : Bool) (t : Thr V) : ∀ (sched : List Nat) (cur : V) (ts : List (Thr V)),
    run rank cas cur (t :: ts) (sched.map (· + 1)) =
      ((run rank cas cur ts sched).1, t :: (run rank cas cur ts sched).2)
  | [], _, _ => rfl
  | i :: sched, cur, ts => by
    simp only [List.map_cons, run, stepAt]
    exact run_shift rank cas t sched _ _

/-- each recorder in turn, two micro-steps each -/
def seqSched : Nat → List Nat
  | 0 => []
  | n + 1 => 0 :: 0 :: (seqSched n).map (· + 1)

theorem sequential_completes (rank : V → Nat) : ∀ (ts : List (Thr V)) (cur : V), (∀ t ∈ ts, t.pc = .start) →
    ∀ t ∈ (run rank true cur ts (seqSched ts.length)).2, t.pc = .fin
  | [], _, _ => by simp [seqSched, run]
  | t0 :: ts, cur, h => by
    rw [List.forall_mem_cons] at h
    simp only [List.length_cons, seqSched, run, stepAt, run_shift, List.forall_mem_cons]
    exact ⟨solo_finishes rank cur t0 h.1, sequential_completes rank ts _ h.2⟩

theorem exists_finishing_schedule (rank : V → Nat) (init : V) (vals : List V) :
    ∃ sched, ∀ t ∈ (run rank true init (initThreads vals) sched).2, t.pc = .fin :=
  ⟨_, sequential_completes rank _ init (initThreads_start vals)⟩

/-- so the largest-query metric of every workload, under that schedule, is its maximum -/
theorem max_reached (sizes : List Nat) : ∃ sched,
    (∀ s ∈ sizes, s ≤ (run id true 0 (initThreads sizes) sched).1) ∧
    ((run id true 0 (initThreads sizes) sched).1 = 0 ∨ (run id true 0 (initThreads sizes) sched).1 ∈ sizes) := by
  obtain ⟨sched, h⟩ := exists_finishing_schedule (id : Nat → Nat) 0 sizes
  exact ⟨sched, max_exact sizes sched h⟩

end GoSQLXModel.Metrics
