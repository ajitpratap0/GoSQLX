import GoSQLXModel.Proofs.LexReads
import GoSQLXModel.Model.NameQuote
/-!
# The serialiser's quoting of a name, read back by the tokenizer

`safeIdentifier` is the model of `Model/NameQuote.lean`; the correspondence check compares it with `Identifier.SQL()` on
the same names.  `quoted_name_reads_back`: whatever the name (ASCII, no line feed — the tokenizer refuses a line feed
inside a quoted identifier), the quoted form is read back by `nextToken` as ONE double-quoted token whose value is the
name: the quoted name is a double-quoted identifier of the reference grammar (`nameQP`), so `nextToken_qid2` reads it.
-/
namespace GoSQLXModel.Lex

/-- the name as pieces of the reference grammar: a double quote is the doubled piece, any other byte itself -/
def nameQP : Bytes → List QP
  | [] => []
  | b :: bs => (if b == 34 then QP.dq else QP.ch b) :: nameQP bs

/-- an ASCII byte that is no line feed -/
def nameByte (b : UInt8) : Bool := decide (b.toNat < 128) && b != 10

theorem nameQP_spec : ∀ s : Bytes, s.all nameByte = true →
    qpSrc (nameQP s) = escapeQuotes s ∧ qpVal (nameQP s) = s ∧ (nameQP s).all QP.ok = true
  | [], _ => ⟨rfl, rfl, rfl⟩
  | b :: bs, hs => by
    simp only [List.all_cons, Bool.and_eq_true, nameByte] at hs
    obtain ⟨h1, h2, h3⟩ := nameQP_spec bs hs.2
    by_cases h : b = 34 <;> simp [nameQP, qpSrc, qpVal, QP.src, QP.val, QP.ok, escapeQuotes, h, hs.1, h1, h2, h3]

theorem quoted_name_reads_back (cls : CharClass) (tb : Tables) (inp : Bytes) (s R : Bytes)
    (h34 : isIdentStart cls 34 = false) (hs : s.all nameByte = true) (hR : followQuote 34 R = true) :
    nextToken cls tb inp (quoteName s ++ R) = .ok ({ ty := tb.ttDouble, value := s, quote := 34 }, R) := by
  obtain ⟨hsrc, hval, hok⟩ := nameQP_spec s hs
  have h := nextToken_qid2 (tb := tb) (inp := inp) (nameQP s) R h34 hok hR
  rwa [hsrc, hval] at h

/-- whenever `safeIdentifier` decides to quote, what it writes is read back as the name -/
theorem safeIdentifier_quoted_reads_back (cls : CharClass) (tb : Tables) (inp : Bytes) (s R : Bytes)
    (h34 : isIdentStart cls 34 = false) (hs : s.all nameByte = true) (hR : followQuote 34 R = true)
    (hne : s.isEmpty = false) (hunsafe : s.all safeByte = false) :
    nextToken cls tb inp (safeIdentifier s ++ R) = .ok ({ ty := tb.ttDouble, value := s, quote := 34 }, R) := by
  simp only [safeIdentifier, hne, hunsafe, Bool.false_eq_true]
  exact quoted_name_reads_back cls tb inp s R h34 hs hR

/-- the recorded finding, in the model: a name with a dot inside, or a digit first, counts as safe and is written bare -/
theorem safeIdentifier_dot_written_bare : safeIdentifier [97, 46, 98] = [97, 46, 98] := by decide
theorem safeIdentifier_digit_first_written_bare : safeIdentifier [49, 115, 116] = [49, 115, 116] := by decide
/-- … while a blank makes it quote -/
theorem safeIdentifier_blank_quoted : safeIdentifier [97, 32, 98] = [34, 97, 32, 98, 34] := by decide
theorem safeIdentifier_quote_inside : safeIdentifier [120, 34, 121] = [34, 120, 34, 34, 121, 34] := by decide

end GoSQLXModel.Lex
