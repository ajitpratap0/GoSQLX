import GoSQLXModel.Model.Pool
/-!
# Node pools: what `get` hands out, besides being clean

The node taken for a type has that type and is removed from the pool exactly once (`takeTy_perm`: no entry goes to two
callers); over a history the nodes handed out are, in order, one per `get`, each of the type asked for, whatever was
released before and through whichever site (`run_types`); the pool grows by at most one entry per `put`.
-/
namespace GoSQLXModel.Pool

theorem takeTy_ty {ty : String} : ∀ {st : State} {n : PNode} {rest : State}, takeTy ty st = some (n, rest) → n.ty = ty :=
  fun h => let ⟨_, _, _, _, hty⟩ := takeTy_split h; hty

theorem takeTy_perm {ty : String} : ∀ {st : State} {n : PNode} {rest : State},
    takeTy ty st = some (n, rest) → (n :: rest).Perm st := by
  intro st n rest h
  obtain ⟨pre, post, rfl, rfl, _⟩ := takeTy_split h
  exact List.perm_middle.symm

/-- the types the history asks for, in order -/
def askedTypes : List Op → List String
  | [] => []
  | .get ty :: ops => ty :: askedTypes ops
  | .put _ _ :: ops => askedTypes ops

theorem step_out_ty (s : Schema) (sites : PoolSites) (st : State) (op : Op) :
    (step s sites st op).2.toList.map (·.ty) = askedTypes [op] := by
  cases op with
  | put site n => simp only [step, askedTypes]; split <;> rfl
  | get ty =>
    simp only [step, askedTypes]
    split
    · next h => simp [takeTy_ty h]
    · rfl

/-- **one node per `get`, of the type asked for** — for every history and every starting pool -/
theorem run_types (s : Schema) (sites : PoolSites) : ∀ (ops : List Op) (st : State),
    (run s sites st ops).2.map (·.ty) = askedTypes ops
  | [], _ => rfl
  | op :: ops, st => by
    rw [run_cons, List.map_append, step_out_ty, run_types s sites ops]
    cases op <;> rfl

def puts : List Op → Nat
  | [] => 0
  | .put _ _ :: ops => puts ops + 1
  | .get _ :: ops => puts ops

theorem step_length_le (s : Schema) (sites : PoolSites) (st : State) (op : Op) :
    (step s sites st op).1.length ≤ st.length + puts [op] := by
  cases op with
  | put site n =>
    simp only [step, puts]
    cases sites.find? (fun e => e.1 == site && e.2.1 == n.ty) <;> simp
  | get ty =>
    simp only [step, puts]
    cases h : takeTy ty st with
    | none => simp
    | some pr => obtain ⟨n, rest⟩ := pr; have := (takeTy_perm h).length_eq; simp at this ⊢; omega

theorem run_length_le (s : Schema) (sites : PoolSites) : ∀ (ops : List Op) (st : State),
    (run s sites st ops).1.length ≤ st.length + puts ops
  | [], _ => Nat.le_refl _
  | op :: ops, st => by
    have h1 := step_length_le s sites st op
    have h2 := run_length_le s sites ops (step s sites st op).1
    rw [run_cons]
    cases op <;> simp only [puts] at h1 ⊢ <;> omega

end GoSQLXModel.Pool
