import GoSQLXModel.Model.Loops
/-!
# Recovery: every reported position is a real token, reported once, in source order

For every token stream and every statement oracle satisfying the frame assumptions, whatever the fuel: what the
recovery loop holds in its two result lists are positions `x < n` (real tokens) before the point it has reached, each
list strictly increasing (source order, no statement or error reported twice), and no position is both a returned
statement and a reported error.
-/
namespace GoSQLXModel.Loops
variable (I : Input)

/-- a result list of the recovery loop standing at `pos`: increasing token positions before `pos` -/
def Inc (pos : Nat) (l : List Nat) : Prop := l.Pairwise (· < ·) ∧ ∀ x ∈ l, x < pos ∧ x < I.n

variable {I}

theorem Inc.mono {pos pos' : Nat} {l : List Nat} (h : Inc I pos l) (hp : pos ≤ pos') : Inc I pos' l :=
  ⟨h.1, fun x hx => ⟨Nat.lt_of_lt_of_le (h.2 x hx).1 hp, (h.2 x hx).2⟩⟩

theorem Inc.snoc {pos pos' : Nat} {l : List Nat} (h : Inc I pos l) (hp : pos < pos') (hn : pos < I.n) : Inc I pos' (l ++ [pos]) :=
  ⟨List.pairwise_append.2 ⟨h.1, List.pairwise_singleton _ _, fun x hx _ hy => List.mem_singleton.1 hy ▸ (h.2 x hx).1⟩,
   fun x hx => (List.mem_append.1 hx).elim (fun hx => (h.mono (Nat.le_of_lt hp)).2 x hx)
     fun hx => List.mem_singleton.1 hx ▸ ⟨hp, hn⟩⟩

theorem Inc.not_mem {pos : Nat} {l : List Nat} (h : Inc I pos l) : pos ∉ l := fun hx => Nat.lt_irrefl _ (h.2 pos hx).1

/-- both lists stay increasing and disjoint: the loop only ever appends the position it stands at, then moves on -/
theorem rec_new_entries (hF : Frame I) (f pos : Nat) (st er : List Nat) (r : List Nat × List Nat)
    (h : recLoop I f pos st er = some r) (hst : Inc I pos st) (her : Inc I pos er) (hd : ∀ x ∈ st, x ∉ er) :
    ∃ pos', Inc I pos' r.1 ∧ Inc I pos' r.2 ∧ ∀ x ∈ r.1, x ∉ r.2 := by
  fun_induction recLoop I f pos st er with
  | case1 | case4 => cases h
  | case2 _ _ _ _ _ _ ih => exact ih h (hst.mono (Nat.le_succ _)) (her.mono (Nat.le_succ _)) hd
  | case3 _ pos st er hm _ o hok pos' ih =>
    have hlt : pos < pos' := hF.lt_next hok
    exact ih h (hst.snoc hlt (lt_n_of_more I hm)) (her.mono (Nat.le_of_lt hlt)) fun x hx hxe =>
      (List.mem_append.1 hx).elim (hd x · hxe) fun hx => her.not_mem (List.mem_singleton.1 hx ▸ hxe)
  | case5 _ pos st er hm _ o _ p1 p2 hsync ih =>
    have hlt : pos < p2 := Nat.lt_of_lt_of_le (hF.lt_resync pos) (sync_ge I _ _ _ hsync)
    exact ih h (hst.mono (Nat.le_of_lt hlt)) (her.snoc hlt (lt_n_of_more I hm)) fun x hx hxe =>
      (List.mem_append.1 hxe).elim (hd x hx) fun hxe => hst.not_mem (List.mem_singleton.1 hxe ▸ hx)
  | case6 => cases h; exact ⟨_, hst, her, hd⟩

variable (I)
/-- from the start of the input: both result lists are strictly increasing token positions below `n`, disjoint -/
theorem recovery_positions (hF : Frame I) (f : Nat) (r : List Nat × List Nat) (h : recLoop I f 0 [] [] = some r) :
    r.1.Pairwise (· < ·) ∧ r.2.Pairwise (· < ·) ∧ (∀ x ∈ r.1, x < I.n) ∧ (∀ x ∈ r.2, x < I.n) ∧ ∀ x ∈ r.1, x ∉ r.2 :=
  let ⟨_, h1, h2, hd⟩ := rec_new_entries hF f 0 [] [] r h ⟨.nil, nofun⟩ ⟨.nil, nofun⟩ nofun
  ⟨h1.1, h2.1, fun x hx => (h1.2 x hx).2, fun x hx => (h2.2 x hx).2, hd⟩

end GoSQLXModel.Loops
