import GoSQLXModel.Model.Scan
/-!
# The minimum-severity threshold as a filter

Through `scan_eq_filter` each of these is a fact about `List.filter`: nothing below the threshold is reported, raising
it only removes findings (a sublist, same order), filtering twice is filtering by the higher threshold, and the
counters of the severities below it are zero.
-/
namespace GoSQLXModel.Scan

theorem scan_low_all (cls : CharClass) (cfg : Cfg) (t : ChildTable) (tree : Val) :
    scan cls cfg t .low tree = (tree.walkVals t none).flatMap (findingsAt cls cfg) := by
  rw [scan_eq_filter]; exact List.filter_eq_self.2 fun f _ => keep_low f

theorem scan_min_rank (cls : CharClass) (cfg : Cfg) (t : ChildTable) (min : Sev) (tree : Val) :
    ∀ f ∈ scan cls cfg t min tree, min.rank ≤ f.sev.rank := by
  intro f hf
  rw [scan_eq_filter] at hf
  exact of_decide_eq_true (List.mem_filter.1 hf).2

theorem keep_of_le {a b : Sev} (h : a.rank ≤ b.rank) (f : Finding) (hb : keep b f = true) : keep a f = true :=
  decide_eq_true (Nat.le_trans h (of_decide_eq_true hb))

theorem threshold_twice (cls : CharClass) (cfg : Cfg) (t : ChildTable) (a b : Sev) (tree : Val) (h : a.rank ≤ b.rank) :
    (scan cls cfg t a tree).filter (keep b) = scan cls cfg t b tree := by
  rw [scan_eq_filter, scan_eq_filter, List.filter_filter]
  exact List.filter_congr fun f _ => Bool.and_eq_left_iff_imp.2 (keep_of_le h f)

theorem threshold_mono (cls : CharClass) (cfg : Cfg) (t : ChildTable) (a b : Sev) (tree : Val) (h : a.rank ≤ b.rank) :
    (scan cls cfg t b tree).Sublist (scan cls cfg t a tree) :=
  threshold_twice cls cfg t a b tree h ▸ List.filter_sublist

theorem counts_below_zero (cls : CharClass) (cfg : Cfg) (t : ChildTable) (min s : Sev) (tree : Val) (h : s.rank < min.rank) :
    ((scan cls cfg t min tree).filter (·.sev == s)).length = 0 := by
  rw [List.length_eq_zero_iff, List.filter_eq_nil_iff]
  intro f hf hs
  have := scan_min_rank cls cfg t min tree f hf
  have e : f.sev = s := by simpa using hs
  rw [e] at this
  omega

end GoSQLXModel.Scan
