/-!
# String equality under kernel evaluation

The table obligations of `Props/*.lean` are decided by the kernel, and most tables are keyed by Go identifiers.  The
kernel compares two strings byte by byte, common prefix included (`TokenType…`, `parse…`), and that is slow; the size of a
literal is computed once and almost always differs.
-/

theorem String.beq_size_first (a b : String) : (a == b) = (a.utf8ByteSize == b.utf8ByteSize && decide (a = b)) := by
  by_cases h : a = b <;> simp [h]
