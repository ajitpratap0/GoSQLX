import GoSQLXModel.Props.C04
import GoSQLXModel.Props.C02
import GoSQLXModel.Props.C12
import GoSQLXModel.Props.C14
import GoSQLXModel.Props.C15
import GoSQLXModel.Props.C16
import GoSQLXModel.Gen.Structure
import GoSQLXModel.Proofs.ExprProgress
import GoSQLXModel.Proofs.ExprTotal
import GoSQLXModel.Proofs.ExprMono
/-!
# C01 — No input can crash, panic or hang any entry point

> For every byte sequence offered as SQL (…) and every token sequence offered to the low-level parser, each public
> entry point (…) returns to its caller with a value or an error. No panic escapes, the process is never killed by a
> runtime fatal error, and the call completes.

What the models carry, for every input:
* tokenizer: `Props.C04.tokenizer_total` — every reader strictly shortens the remaining input, so `tokenize` returns
  tokens or an error for every classifier and every byte string (valid UTF-8 or not); the model is total Lean code, so
  no index is out of range in it, and it equals the implementation on every compared input (C04's correspondence);
* statement loops: `Props.C12.strict_terminates`, `Props.C12.recovery_terminates` — `Parse`/`ParseContext`/strict and
  `ParseWithRecovery` leave their loops for every token sequence on which statement parsing moves forward or fails
  (`Frame`), with at most one iteration per token;
* recursion: `Props.C02.parser_stack_bounded`, `tokenizer_stack_bounded` — every cycle of the regenerated call graph
  passes a depth guard, so no fatal stack overflow;
* tree functions: traversal, scanning and extraction are structural recursions over the tree (`Val.walk`,
  `Scan.scan`, `Extract.Collector.run` are accepted by Lean without fuel) and visit nothing outside it
  (`Val.walk_sound`, `Extract.Collector.run_sound`).

* grammar loops: `gen_parser_loops_leave_at_end` — an obligation on facts regenerated from the source: every loop of
  pkg/sql/parser over the token stream (not a range or counted loop) is left when the tokens run out — its condition
  is a positive token test (which the end marker never satisfies) or tests the end marker / token index, or its body
  leaves on "none of the expected tokens" or returns the error of a fallible parse call — and every iteration consumes
  a token, calls a parse function or leaves.  (A syntactic criterion, checked on every loop of the package, including
  loops added later; it is what the cut-statement runs sample dynamically.)

* expression ladder: `expression_ladder_moves_forward` (`Proofs/ExprProgress.lean`) — for **every** token list (with or
  without an end marker, produced by a tokenizer or not), every depth and every fuel, each level of the modelled ladder
  (OR, AND, comparison / BETWEEN / LIKE / IN / IS, `||`, additive, multiplicative, primary, call arguments, IN lists)
  hands back strictly fewer tokens than it was given when it succeeds, and no loop body hands back more than it was
  given: so every iteration of the ladder's `for p.isType(…)` loops consumes tokens and the statement loops cannot spin on
  an expression; `expression_ladder_returns` (`Proofs/ExprTotal.lean`) — and it *returns*: with fuel `10·n + 8` for a list
  of `n` tokens the model's only artificial answer, out-of-fuel, never occurs — on every token list every level answers
  a tree, an error or `unsupported`, so the recursion depth of the modelled `parseExpression` is linear in the input.

**Partial**: the statement grammar below the loops (that `parseStatement` always moves forward or fails on every token
list, including lists without an end marker) is modelled for the expression ladder only; it is covered by the child-process
survival run over every entry point (byte strings, cut statements, deep and long shapes, and token sequences no
tokenizer produces). Memory safety and runtime fatal errors other than stack exhaustion are outside any model.
-/
namespace GoSQLXModel.Props.C01
open GoSQLXModel GoSQLXModel.Loops

/-- the tokenizer returns for every input -/
theorem tokenizer_returns (cls : CharClass) (inp : Lex.Bytes) :
    (∃ toks cms, Lex.tokenize cls Lex.genLexTables inp = .ok toks cms) ∨ (∃ e, Lex.tokenize cls Lex.genLexTables inp = .err e) := by
  cases hr : Lex.tokenize cls Lex.genLexTables inp with
  | ok toks cms => exact Or.inl ⟨toks, cms, rfl⟩
  | err e => exact Or.inr ⟨e, rfl⟩
  | outOfFuel => exact absurd hr (Props.C04.tokenizer_total cls inp)

/-- the statement loops return (one iteration per token at most) -/
theorem loops_return (I : Input) (hF : Frame I) (strict : Bool) :
    (∃ r, parseLoop I strict (I.n + 2) 0 [] = some r) ∧ (∃ r, recLoop I (I.n + 2) 0 [] [] = some r) :=
  ⟨Props.C12.strict_terminates I hF strict, Props.C12.recovery_terminates I hF⟩

/-- every token-stream loop of the parser package is left at the end of the tokens and moves on each iteration (the floor
    on the number of rows, here and in the other `gen_*` obligations that have one, refuses a table from an extraction
    that found nothing) -/
theorem gen_parser_loops_leave_at_end :
    (Gen.Structure.parserLoops.all fun l => l.2.1 != "open" && l.2.2) = true ∧ Gen.Structure.parserLoops.length ≥ 40 := by
  decide +kernel

/-- the expression ladder moves forward on every token list: a successful `parseExpression` (and every level below it,
    `ExprParse.prog`) hands back strictly fewer tokens than it was given -/
theorem expression_ladder_moves_forward (f d : Nat) (ts : List ExprParse.PTok) (e : ExprParse.Ex) (rest : List ExprParse.PTok)
    (h : ExprParse.pExpr f d ts = .ok e rest) : rest.length < ts.length :=
  ExprParse.pExpr_progress f d ts e rest h

/-- the expression ladder returns on every token list: fuel linear in the number of tokens always suffices -/
theorem expression_ladder_returns (d : Nat) (ts : List ExprParse.PTok) (f : Nat) (hf : 10 * ts.length + 8 ≤ f) :
    ExprParse.pExpr f d ts ≠ .oof :=
  ExprParse.pExpr_returns d ts f hf

/-- … and its answer does not depend on the fuel: every sufficient fuel gives the answer of `parseExprAt`, which is never
    out-of-fuel — the fuel of the model is an artefact of the proof assistant, not a behaviour -/
theorem expression_answer_independent_of_fuel (d : Nat) (ts : List ExprParse.PTok) (f : Nat) (hf : 10 * ts.length + 8 ≤ f) :
    ExprParse.pExpr f d ts = ExprParse.parseExprAt d ts ∧ ExprParse.parseExprAt d ts ≠ .oof :=
  ⟨ExprParse.pExpr_stable d ts f hf, ExprParse.parseExprAt_ne_oof d ts⟩

/-- non-vacuity: `a + ` followed by nothing fails rather than loops, `a + b )` stops before the parenthesis -/
example : (ExprParse.pExpr 40 0 [⟨.ident, "a"⟩, ⟨.plus, "+"⟩]).canon = "ERR E2001" := by decide +kernel
example : (ExprParse.pExpr 40 0 [⟨.ident, "a"⟩, ⟨.plus, "+"⟩, ⟨.ident, "b"⟩, ⟨.rparen, ")"⟩]).canon = "OK (id(a) + id(b)) 1" := by
  decide +kernel

/-- traversal-based functions never leave the tree -/
theorem tree_functions_stay_inside (t : ChildTable) (v : Val) :
    (v.walk t none).Sublist v.nodes ∧ (v.walkVals t none).Sublist v.nodeVals :=
  ⟨Val.walk_sound t none v, Val.walkVals_sublist t none v⟩

end GoSQLXModel.Props.C01
