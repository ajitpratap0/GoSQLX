import GoSQLXModel.Model.CallGraph
import GoSQLXModel.Gen.ParserGraph
import GoSQLXModel.Gen.TokenizerGraph
import GoSQLXModel.Gen.Limits
import GoSQLXModel.Gen.Known
import GoSQLXModel.Gen.ParserInstance
import GoSQLXModel.Model.LexGen
import GoSQLXModel.Proofs.LexSpell3
import GoSQLXModel.Proofs.StringEq
import GoSQLXModel.Proofs.LexGenBytes
/-!
# C02 — Size, token and nesting limits hold for every construct

> Whatever syntactic construct is nested, nesting beyond the documented depth limit is rejected
> with an error, so stack use is bounded independently of input length and no input overflows
> the stack.  (Quantifier: every self-embedding production of the grammar = every cycle in the
> parser's call graph.)

* `CallGraph.stack_bounded` (generic, all chains, no bound on length): if the rank strictly decreases
  along every unguarded call edge, a goroutine stack with at most `D` guarded frames has at most
  `(D+1)·(R+1)` frames.  `CallGraph.unguarded_cycle_unbounded` is the converse: an unguarded cycle
  admits stacks of any length with the counter untouched.
* `gen_parser_ranked`, `gen_tokenizer_ranked`: on the call graphs re-extracted from today's source
  the ranking certificate produced by the extractor is valid, i.e. **every cycle of the parser's
  call graph contains a depth-guarded call site** and the tokenizer has no recursion cycle at all.
* `parser_stack_bounded`: the instantiation with `D = MaxRecursionDepth` read from the source.
* the limit constants equal the documented values.
The byte and token limit clauses are theorems about the tokenizer model (`Model/Lex.lean`) further down:
`token_count_is_bounded`, `token_limit_refuses_reference_text`, `byte_limit_refuses`, `byte_limit_boundary`,
`reference_text_at_byte_limit_accepted`; the model is tied to `Tokenizer.Tokenize` by C04's correspondence and the
limits are probed at the boundary on the real code.
-/
namespace GoSQLXModel.Props.C02
open GoSQLXModel GoSQLXModel.CallGraph

/-- every unguarded edge of the parser's call graph strictly decreases the extracted rank:
    no cycle without a depth guard -/
theorem gen_parser_ranked : checkRanking Gen.parserEdges Gen.parserRank = [] := by
  simp only [checkRanking, rankOf, String.beq_size_first]
  decide +kernel

/-- the tokenizer's call graph has no cycle at all (no edge is guarded there) -/
theorem gen_tokenizer_ranked : checkRanking Gen.tokenizerEdges Gen.tokenizerRank = [] := by decide +kernel

/-- the depth counter that enforces the limit is kept with `defer` at every counting production: whatever operand of
    whatever operator the nesting sits in, a level entered is counted until it is left (regenerated; the harness nests
    through the right and the left operand of every binary operator and through every later argument, element, arm and bound) -/
theorem gen_depth_counted_until_left : Gen.parserDepthIncs.all (·.2) = true ∧ Gen.parserDepthIncs.length ≥ 3 := by decide +kernel

theorem limits_documented :
    Gen.limitMaxInputSize = 10 * 1024 * 1024 ∧ Gen.limitMaxTokens = 1000000 ∧ Gen.limitMaxRecursionDepth = 100 := by
  decide

/-- the tokenizer model runs with these limits -/
theorem maxInput_eq : Lex.genLexTables.maxInput = 10 * 1024 * 1024 := limits_documented.1
theorem maxTokens_eq : Lex.genLexTables.maxTokens = 1000000 := limits_documented.2.1

/-- **C02 (stack clause)**: any chain of parser frames whose guarded call sites number at most the
    recursion limit (the counter is checked before any further call) has bounded length,
    whatever the input. -/
theorem parser_stack_bounded (p : List Edge) (s : String) (hc : Chain s p)
    (hmem : ∀ e ∈ p, e ∈ Gen.parserEdges) (hD : guardedCount p ≤ Gen.limitMaxRecursionDepth) :
    p.length ≤ (Gen.limitMaxRecursionDepth + 1) * (maxRank Gen.parserRank + 1) :=
  stack_bounded Gen.parserEdges Gen.parserRank gen_parser_ranked p s hc hmem _ hD

/-- the tokenizer never nests deeper than its (acyclic) call graph's height -/
theorem tokenizer_stack_bounded (p : List Edge) (s : String) (hc : Chain s p)
    (hmem : ∀ e ∈ p, e ∈ Gen.tokenizerEdges) (h0 : guardedCount p = 0) :
    p.length ≤ maxRank Gen.tokenizerRank + 1 := by
  simpa using stack_bounded Gen.tokenizerEdges Gen.tokenizerRank gen_tokenizer_ranked p s hc hmem 0 (Nat.le_of_eq h0)

/-- non-vacuity: the guarded self-embedding through parseExpression is in the graph -/
example : ("parseExpression", "parseAndExpression", true) ∈ Gen.parserEdges := by decide +kernel
example : ("parsePrimaryExpression", "parseComparisonExpression", true) ∈ Gen.parserEdges := by decide +kernel

/-- sensitivity: a graph with an unguarded cycle is rejected whatever ranks are offered, and the
    cycle really yields unbounded stacks (the shape of the NOT-chain / derived-table defects
    repaired by the depth-guard fix) -/
example : checkRanking [("prim", "cmp", false), ("cmp", "prim", false)] [("prim", 1), ("cmp", 0)]
    = [("cmp", "prim", false)] := by decide

theorem not_chain_shape_unbounded (n : Nat) :
    ∃ p : List Edge, Chain "prim" p ∧ guardedCount p = 0 ∧ n ≤ p.length ∧
      ∀ e ∈ p, e ∈ [("prim", "cmp", false), ("cmp", "prim", false)] := by
  have h := unguarded_cycle_unbounded [("prim", "cmp", false), ("cmp", "prim", false)] "prim"
    (by simp [Chain]) (by simp [chainEnd]) (by simp) (by simp [guardedCount]) n
  exact ⟨_, h.1, h.2.1, h.2.2, fun _ => mem_iter⟩

/-! ### the token limit (tokenizer model `Model/Lex.lean`, tied to `Tokenizer.Tokenize` by the C04 correspondence) -/
open GoSQLXModel.Lex in
/-- **C02 (token clause, bound)**: whatever the input and the character classes, an accepted run returns at most
    1 000 000 tokens and the end marker — counted over the whole input, not per statement. -/
theorem token_count_is_bounded (cls : CharClass) (inp : Bytes) (out : List Tok) (cms : List Comment)
    (h : tokenize cls genLexTables inp = .ok out cms) : out.length ≤ 1000001 := by
  have := tokenize_bounded cls genLexTables inp out cms h
  rwa [maxTokens_eq] at this

open GoSQLXModel.Lex in
/-- **C02 (token clause, refusal)**: a text of the reference grammar with exactly `maxTokens` lexemes — wherever its
    semicolons stand — followed by anything that starts another token is refused with E1007, located at what follows. -/
theorem token_limit_refuses_reference_text (cls : CharClass) (tb : Tables) (hA : AsciiOK cls) (lead : List Piece)
    (items : List Item2) (tail : Bytes) (htail : stopB tail = true) (hne : tail ≠ []) (hlead : lead.all Piece.ok = true)
    (hok : seqOKT cls tb tail items = true) (hsize : (sepBytes lead ++ (flat2 items ++ tail)).length ≤ tb.maxInput)
    (hcount : items.length = tb.maxTokens) :
    tokenize cls tb (sepBytes lead ++ (flat2 items ++ tail)) =
      .err ⟨"E1007", .at ((sepBytes lead ++ (flat2 items ++ tail)).length - tail.length)⟩ :=
  token_limit_refuses cls tb hA lead items tail htail hne hlead hok hsize hcount

open GoSQLXModel.Lex in
/-- **C02 (byte clause, refusal)**: every input longer than the documented 10 MiB — whatever it contains, under every
    character classification — is refused with the dedicated size error before any byte is read. -/
theorem byte_limit_refuses (cls : CharClass) (inp : Bytes) (h : inp.length > 10 * 1024 * 1024) :
    tokenize cls genLexTables inp = .err ⟨"E1006", .fixed⟩ := by
  simp only [tokenize, maxInput_eq, h, if_true]

open GoSQLXModel.Lex in
/-- **C02 (byte clause, boundary)**: an input of at most — in particular of exactly — 10 MiB passes the size test and
    is handed to the tokenizer loop: whatever `tokenize` then answers is the loop's answer. -/
theorem byte_limit_boundary (cls : CharClass) (inp : Bytes) (h : inp.length ≤ 10 * 1024 * 1024) :
    tokenize cls genLexTables inp = lexLoop cls genLexTables inp (inp.length + 1) inp [] [] := by
  simp only [tokenize, maxInput_eq, Nat.not_lt.2 h, if_false]

open GoSQLXModel.Lex in
/-- … and for every text of the reference grammar of exactly 10 MiB (and no more than the token limit) that answer is
    acceptance, with the tokens the text spells -/
theorem reference_text_at_byte_limit_accepted (cls : CharClass) (hA : AsciiOK cls) (lead : List Piece) (items : List Item2)
    (hlead : lead.all Piece.ok = true) (hok : seqOK cls genLexTables items = true)
    (hsize : (sepBytes lead ++ flat2 items).length = 10 * 1024 * 1024) (hcount : items.length ≤ 1000000) :
    ∃ toks cs, tokenize cls genLexTables (sepBytes lead ++ flat2 items) = .ok toks cs ∧
      toks.map Tok.key = (items.map fun it => it.1.key cls genLexTables) ++ [(0, [])] := by
  obtain ⟨toks, cs, h1, h2, _⟩ := tokenize_spell2 cls genLexTables hA lead items hlead hok
    (Nat.le_of_eq (hsize.trans maxInput_eq.symm)) (maxTokens_eq ▸ hcount)
  exact ⟨toks, cs, h1, h2⟩

/-- the same boundary with the limit set to 5: five bytes pass, six are refused whatever they are -/
example : (match Lex.tokenize .ascii { Lex.genLexTables with maxInput := 5 } [97, 32, 98, 32, 99] with | .ok out _ => out.length | _ => 0) = 4 ∧
    Lex.tokenize .ascii { Lex.genLexTables with maxInput := 5 } [97, 32, 98, 32, 99, 32] = .err ⟨"E1006", .fixed⟩ := by
  rw [Lex.genLexTables_eq]; decide +kernel

/-- non-vacuity, with the limit set to 3: `a;b` are three lexemes in two statements, `;c` follows -/
def small : Lex.Tables := { Lex.genLexTables with maxTokens := 3 }
example : Lex.seqOKT .ascii small [59, 99] [(.word [97], []), (.op [59], []), (.word [98], [])] = true ∧ Lex.stopB [59, 99] = true := by
  rw [small, Lex.genLexTables_eq]; decide +kernel
example : Lex.tokenize .ascii small [97, 59, 98, 59, 99] = .err ⟨"E1007", .at 3⟩ := by
  rw [small, Lex.genLexTables_eq]
  decide +kernel
example : (match Lex.tokenize .ascii small [97, 59, 98] with | .ok out _ => out.length | _ => 0) = 4 := by
  rw [small, Lex.genLexTables_eq]
  decide +kernel

end GoSQLXModel.Props.C02
