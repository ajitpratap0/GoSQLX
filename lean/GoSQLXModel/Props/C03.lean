import GoSQLXModel.Model.ExprGen
import GoSQLXModel.Proofs.ExprMono
import GoSQLXModel.Proofs.ExprRoundTrip
import GoSQLXModel.Proofs.StringEq
/-!
# C03 — The parsed tree is the tree the SQL grammar prescribes

> (…) operators bind by standard precedence and associate to the left, parentheses override, and every clause,
> modifier, alias, name and literal written in the text appears in the tree with its written value while nothing
> unwritten appears. A statement of that surface is never rejected.

Model: `Model/ExprParse.lean`, the expression ladder of expressions.go (OR, AND, NOT, comparisons, IS [NOT] NULL,
[NOT] BETWEEN, [NOT] LIKE / ILIKE / REGEXP / RLIKE, [NOT] IN (list), `||`, `+ −`, `* / %`, identifiers, plain function
calls, literals, parentheses), with the depth counter, the literal-based tests of the real code and its error
re-wrapping; token classes by the names of `models.TokenType` constants whose numbers are regenerated; `unsupported`
(never a guess) on every token that would take the real parser into a production the model does not cover.
Reference grammar and rendering: `Model/ExprGrammar.lean`.

* `parse_render` (Proofs/ExprRoundTrip.lean): for every well-formed model expression `g` (`G.WF`: what real token
  streams satisfy — an operator or keyword token is not spelled ILIKE / REGEXP / RLIKE, the keyword after a predicate's
  NOT is spelled as the look-ahead expects, a function is not named MATCH), `pExpr (render 1 g ++ X) = ok g X` for
  every continuation `X` that starts no operator, given room under the depth limit — precedence, left
  associativity, parentheses overriding, predicates and their operand levels, argument lists, spelling of every
  operator and atom preserved, nothing added, never rejected.
* Tie: correspondence (driver op `expr`) of the model with `parseExpression` (hook `VerifExprAt`) on rendered model
  expressions, corrupted token lists and deep nests around the limit; and the oracle of the property itself: the real
  tree of every generated statement (queries with joins, sub-queries, CTEs, set operations, grouping, ordering, limits;
  INSERT / UPDATE / DELETE with RETURNING) compared field by field with the generator's model tree.

**Partial**: CASE, CAST, sub-queries (EXISTS, IN (SELECT …), scalar), qualified names, `::` / JSON operators, window
and aggregate modifiers of calls, and the statement level are not in the Lean model; for them the decision is the
oracle alone.
-/
namespace GoSQLXModel.Props.C03
open GoSQLXModel GoSQLXModel.ExprParse

/-- One pass over a table of numbered entries, the numbers met so far being the bits of `seen`: an entry whose number
    has been met before is tested by `ok`.  (Linear, where comparing all pairs is quadratic.) -/
def metTwice {α : Type} (ok : α × Nat → Bool) : List (α × Nat) → Nat → Bool
  | [], _ => true
  | b :: t, seen => (!seen.testBit b.2 || ok b) && metTwice ok t (seen ||| 1 <<< b.2)

theorem metTwice_sound {α : Type} {ok : α × Nat → Bool} : ∀ (l : List (α × Nat)) (seen : Nat), metTwice ok l seen = true →
    (∀ b ∈ l, seen.testBit b.2 = true → ok b = true) ∧
    ∀ a ∈ l, ∀ b ∈ l, a.2 = b.2 → a = b ∨ ok a = true ∨ ok b = true
  | [], _, _ => ⟨nofun, nofun⟩
  | c :: t, seen, h => by
    simp only [metTwice, Bool.and_eq_true, Bool.or_eq_true, Bool.not_eq_true'] at h
    obtain ⟨h1, h2⟩ := metTwice_sound t _ h.2
    have hc : ∀ b ∈ t, c.2 = b.2 → ok b = true := fun b hb e =>
      h1 b hb (by rw [Nat.testBit_or, Nat.one_shiftLeft, Nat.testBit_two_pow, e, decide_eq_true rfl, Bool.or_true])
    refine ⟨fun b hb hs => ?_, fun a ha b hb e => ?_⟩
    · rcases List.mem_cons.1 hb with rfl | hb
      · exact h.1.resolve_left (by rw [hs]; nofun)
      · exact h1 b hb (by rw [Nat.testBit_or, hs, Bool.true_or])
    · rcases List.mem_cons.1 ha with rfl | ha' <;> rcases List.mem_cons.1 hb with rfl | hb'
      · exact .inl rfl
      · exact .inr (.inr (hc b hb' e))
      · exact .inr (.inl (hc a ha' e.symm))
      · exact h2 a ha' b hb' e

/-- constants that share a number (aliases) fall in the same token class -/
theorem gen_alias_classes_agree :
    (Gen.Lex.tokenTypes.all fun a => Gen.Lex.tokenTypes.all fun b => a.2 != b.2 || classOfName a.1 == classOfName b.1) = true := by
  -- only a constant whose number occurs earlier in the table is compared (with every constant of that number): the others
  -- are never classified, and `classOfName`'s chain of string comparisons is what the kernel is slow at
  have h : metTwice (fun b => Gen.Lex.tokenTypes.all fun a => a.2 != b.2 || classOfName a.1 == classOfName b.1)
      Gen.Lex.tokenTypes 0 = true := by decide +kernel
  have h := (metTwice_sound _ _ h).2
  simp only [List.all_eq_true, Bool.or_eq_true, bne_iff_ne, beq_iff_eq] at h ⊢
  intro a ha b hb
  refine (Decidable.em (a.2 = b.2)).elim (fun e => .inr ?_) .inl
  rcases h a ha b hb e with rfl | h | h
  · rfl
  · exact ((h b hb).resolve_left (· e.symm)).symm
  · exact (h a ha).resolve_left (· e)

/-- the operator and atom token types the model distinguishes exist in today's table -/
theorem gen_classes_present :
    (["TokenTypeOr", "TokenTypeAnd", "TokenTypeNot", "TokenTypeEq", "TokenTypeNeq", "TokenTypeLt", "TokenTypeGt", "TokenTypeLtEq",
      "TokenTypeGtEq", "TokenTypeStringConcat", "TokenTypePlus", "TokenTypeMinus", "TokenTypeAsterisk", "TokenTypeMul", "TokenTypeDiv",
      "TokenTypeMod", "TokenTypeLParen", "TokenTypeRParen", "TokenTypeIdentifier", "TokenTypeNumber", "TokenTypeSingleQuotedString",
      "TokenTypeTrue", "TokenTypeFalse", "TokenTypeNull", "TokenTypeEOF", "TokenTypeComma", "TokenTypeDoubleColon",
      "TokenTypeIs", "TokenTypeBetween", "TokenTypeLike", "TokenTypeILike", "TokenTypeIn"].all
        fun n => Gen.Lex.tokenTypes.any (·.1 == n)) = true := by
  simp only [String.beq_size_first]
  decide +kernel

theorem expression_round_trip (g : G) (hw : g.WF = true) (X : List PTok) (hp : PrimStop X) (hn : N1 X)
    (hd : need 1 g + 1 ≤ maxDepth) :
    ∃ f0, ∀ f, f0 ≤ f → pExpr f 0 (render 1 g ++ X) = .ok g.toEx X :=
  parse_render g hw X hp hn hd

/-! non-vacuity and the textbook cases, evaluated on the model -/
def a : G := .atom (.ident "a")
def b : G := .atom (.ident "b")
def c : G := .atom (.ident "c")
def eof : PTok := ⟨.stop, ""⟩
def tk (k : TK) (s : String) : PTok := ⟨k, s⟩

/-- the hypotheses of the theorem are satisfiable: an end marker is a continuation that starts no operator -/
theorem eof_stops : PrimStop [eof] ∧ N1 [eof] := by
  simp only [PrimStop, N1, N2, N4, N5, N6, N7, CmpStop, headNot_cons, headPlain_cons, eof]
  decide +kernel
/-- **C03 (expression ladder), without fuel**: the model parser as a function of the tokens alone (`parseExprAt`:
    the fuel that always suffices; any larger fuel gives the same answer, `pExpr_stable`) reads every rendering back as
    its tree -/
theorem expression_round_trip_fuel_free (g : G) (hw : g.WF = true) (X : List PTok) (hp : PrimStop X) (hn : N1 X)
    (hd : need 1 g + 1 ≤ maxDepth) : parseExprAt 0 (render 1 g ++ X) = .ok g.toEx X := by
  obtain ⟨f0, h⟩ := expression_round_trip g hw X hp hn hd
  rw [← pExpr_stable 0 _ _ (Nat.le_max_right f0 _)]
  exact h _ (Nat.le_max_left _ _)

/-- **C03 (no ambiguity)**: the text determines the tree — two well-formed model trees whose renderings coincide denote
    the same expression tree (the parser is a function of the tokens and reads each rendering back as its tree) -/
theorem text_determines_tree (g1 g2 : G) (w1 : g1.WF = true) (w2 : g2.WF = true)
    (d1 : need 1 g1 + 1 ≤ maxDepth) (d2 : need 1 g2 + 1 ≤ maxDepth) (h : render 1 g1 = render 1 g2) : g1.toEx = g2.toEx := by
  have a := expression_round_trip_fuel_free g1 w1 [eof] eof_stops.1 eof_stops.2 d1
  rw [h, expression_round_trip_fuel_free g2 w2 [eof] eof_stops.1 eof_stops.2 d2] at a
  exact (Res.ok.inj a).1.symm

example : (G.between (some "NOT") "between" "AND" a b (.bin .plus "+" b c)).WF = true := by decide +kernel

/-- `a OR b AND c` is `a OR (b AND c)` -/
example : (pExpr 40 0 [tk .ident "a", tk .or "OR", tk .ident "b", tk .and "AND", tk .ident "c", eof]).canon =
    "OK (id(a) OR (id(b) AND id(c))) 1" := by decide +kernel
/-- `a - b - c` is `(a - b) - c` -/
example : (pExpr 40 0 [tk .ident "a", tk .minus "-", tk .ident "b", tk .minus "-", tk .ident "c", eof]).canon =
    "OK ((id(a) - id(b)) - id(c)) 1" := by decide +kernel
/-- parentheses override: `(a OR b) AND c` -/
example : render 1 (.bin .and "AND" (.bin .or "OR" a b) c) =
    [lp, tk .ident "a", tk .or "OR", tk .ident "b", rp, tk .and "AND", tk .ident "c"] := by decide +kernel
example : (pExpr 40 0 (render 1 (.bin .and "AND" (.bin .or "OR" a b) c) ++ [eof])).canon =
    "OK ((id(a) OR id(b)) AND id(c)) 1" := by decide +kernel
/-- `NOT a = b` negates the comparison -/
example : (pExpr 40 0 [tk .not "NOT", tk .ident "a", tk .cmp "=", tk .ident "b", eof]).canon =
    "OK not((id(a) = id(b))) 1" := by decide +kernel
/-- `a BETWEEN b AND c AND a`: the first AND belongs to BETWEEN -/
example : (pExpr 60 0 [tk .ident "a", tk .between "BETWEEN", tk .ident "b", tk .and "AND", tk .ident "c", tk .and "AND",
    tk .ident "a", eof]).canon = "OK (between(id(a),id(b),id(c)) AND id(a)) 1" := by decide +kernel
/-- `a NOT IN (b, c)` and `f(a, b) IS NOT NULL` -/
example : (pExpr 60 0 [tk .ident "a", tk .not "NOT", tk .in_ "IN", lp, tk .ident "b", comma, tk .ident "c", rp, eof]).canon =
    "OK !in(id(a),id(b),id(c)) 1" := by decide +kernel
example : (pExpr 60 0 [tk .ident "f", lp, tk .ident "a", comma, tk .ident "b", rp, tk .is "IS", tk .not "NOT", tk .null "NULL",
    eof]).canon = "OK !isnull(fn f(id(a),id(b))) 1" := by decide +kernel
/-- a quoted identifier spelled ilike after an operand is taken for the operator, as the real parser does (by literal) -/
example : (pExpr 60 0 [tk .ident "a", tk .ident "ilike", tk .str "x", eof]).canon = "OK ilike(id(a),str(x)) 1" := by decide +kernel
/-- what the model does not cover is `unsupported`, not guessed -/
example : (pExpr 40 0 [tk .ident "a", tk .cont "::", tk .ident "int", eof]).canon = "UNSUPPORTED" := by decide +kernel

end GoSQLXModel.Props.C03
