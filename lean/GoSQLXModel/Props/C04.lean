import GoSQLXModel.Model.LexGen
import GoSQLXModel.Proofs.LexEOF
import GoSQLXModel.Proofs.LexSpans
import GoSQLXModel.Proofs.LexSpell
import GoSQLXModel.Proofs.LexSpell2
import GoSQLXModel.Driver.GoClass
import GoSQLXModel.Proofs.LexGenBytes
/-!
# C04 — The token stream is a faithful, layout-independent reading of the text

> Tokenizing yields, in source order, exactly the lexical elements of the input (…) followed by exactly one
> end-of-input marker, with each comment captured separately with its exact text. Changing only the whitespace or
> comments between elements, or the letter case of keywords, never changes the sequence of kinds and values (…).

Model: `Model/Lex.lean`, the byte-level tokenizer (Go's UTF-8 decoding, every reader, the trivia loop, the limits),
with keyword / compound-keyword / operator tables and token-type numbers regenerated from the source.

Proved for every classifier, every table and every byte string (`Proofs/Lex*.lean`):
* `tokenize_total` — the tokenizer returns (C01 for the tokenizer): every reader strictly shortens the input;
* `tokenize_single_eof` — the tokens of an accepted input are followed by exactly one end-of-input marker, and no
  other token has that type;
* `tokenize_spans` — spans are in source order, never overlap, and end at the end of the input;
* `skipTriviaF_head` — a token never starts at a blank;
* `longestOp_maximal` — operators are read by maximal munch over the operator table.
Obligations on the regenerated tables: well-formedness (`TablesOK`), the operator table is prefix-closed (so the
nested `if` ladder of readPunctuation and the longest-match reading coincide), keywords are stored upper-case.

* `tokenize_spell` (`Proofs/LexSpell.lean`) — the reference surface: every sequence, of any length within the limits,
  of ASCII words (keywords by the keyword table, else identifiers; not the first word of a compound keyword),
  unsigned integers and `( ) , ;`, each followed by *any* non-empty run of blanks, is read as exactly that sequence of
  (type, text) pairs, then one end marker, with no comments; `tokenize_layout_independent`: hence two layouts of the
  same lexemes give the same tokens.  Its hypotheses on the parameters are decidable and discharged here for the
  classifier dumped from the Go runtime (`go_class_ascii_ok`) and today's operator table (`gen_punct_ok`).

* `tokenize_spell2` (`Proofs/LexSpell2.lean`) — the reference grammar proper: every sequence, of any length within the
  limits, of ASCII words (keyword by the keyword table, else identifier — the first word of a two-word keyword included,
  when what follows does not complete one), two-word keywords written with any blank run between the words, numbers in
  all forms (digits, fraction, exponent with optional sign), *every* operator of the operator table, single-quoted
  literals (plain bytes, doubled quotes, the seven backslash escapes — the value is the decoded text), double-quoted
  identifiers (doubled quotes), backtick identifiers (doubled backticks, any byte), separated by any mix of blank runs,
  line comments and block comments, or by *nothing* wherever the local junction check `seqOK` allows it, is read as
  exactly that sequence of (kind, decoded value) pairs, then one end marker; and the comments captured are exactly the
  separators' comments, in order, with their exact text and kind.  `tokenize_layout_independent2`: two layouts of the
  same lexemes give the same kinds and values; `word_kind_case_insensitive`: letter case does not change a word's kind.

**Partial**: outside the theorem: non-ASCII identifiers and non-ASCII bytes inside quoted forms (the UTF-8 re-encoding
of the readers), Unicode quote characters, `$`-placeholders / dollar-quoted strings / `@` forms, triple-quoted strings,
an unterminated final line comment, and the parser-side expansion of two-word keyword tokens (so that `GROUP /*c*/ BY`
and `GROUP BY` parse alike although their token lists differ).  For those the statement is checked by the harness
against the generator's own record (oracle), exhaustively for operator pairs, and the model is tied to the code by the
byte-level correspondence.
-/
namespace GoSQLXModel.Props.C04
open GoSQLXModel GoSQLXModel.Lex

theorem gen_types_nonzero :
    (Gen.Lex.keywordTypes.all fun e => e.2 != 0) = true ∧ (Gen.Lex.compoundTypes.all fun e => e.2 != 0) = true ∧
    (Gen.Lex.operators.all fun e => e.2 != 0) = true ∧
    Gen.Lex.ttIdentifier ≠ 0 ∧ Gen.Lex.ttNumber ≠ 0 ∧ Gen.Lex.ttPlaceholder ≠ 0 ∧ Gen.Lex.ttSingleQuotedString ≠ 0 ∧
    Gen.Lex.ttDoubleQuotedString ≠ 0 ∧ Gen.Lex.ttString ≠ 0 ∧ Gen.Lex.ttTripleSingleQuotedString ≠ 0 ∧
    Gen.Lex.ttTripleDoubleQuotedString ≠ 0 ∧ Gen.Lex.ttDollarQuotedString ≠ 0 := by decide +kernel

theorem gen_at_operators :
    (lookup genLexTables.operators [64]).isSome = true ∧ (lookup genLexTables.operators [64, 62]).isSome = true ∧
    (lookup genLexTables.operators [64, 64]).isSome = true := by decide +kernel

theorem map_snd_ne_zero {l : List (String × Nat)} (h : (l.all fun e => e.2 != 0) = true) :
    ∀ e ∈ l.map (fun e => (strBytes e.1, e.2)), e.2 ≠ 0 := by
  intro e he
  simp only [List.mem_map] at he
  obtain ⟨x, hx, rfl⟩ := he
  simpa using List.all_eq_true.1 h x hx

theorem gen_tables_ok : TablesOK genLexTables := by
  obtain ⟨kw, ct, op, ident, num, ph, sq, dq, st, ts, td, dl⟩ := gen_types_nonzero
  exact {
    kw := map_snd_ne_zero kw, ct := map_snd_ne_zero ct, op := map_snd_ne_zero op
    ident, num, ph, sq, dq, st, ts, td, dl
    at1 := gen_at_operators.1, at2 := gen_at_operators.2.1, at3 := gen_at_operators.2.2 }

/-- every non-empty proper prefix of an operator is an operator: longest match = the ladder of nested tests -/
theorem gen_operators_prefix_closed :
    (Gen.Lex.operators.all fun o =>
      (List.range o.1.length).all fun k =>
        k == 0 || Gen.Lex.operators.any fun p => p.1.toList == o.1.toList.take k) = true := by decide +kernel

/-- keyword and compound-keyword keys are stored in upper case (they are looked up by the upper-cased word) -/
theorem gen_keywords_upper :
    (Gen.Lex.keywordTypes.all fun e => e.1.toList.all fun c => !('a' ≤ c && c ≤ 'z')) = true ∧
    (Gen.Lex.compoundTypes.all fun e => e.1.toList.all fun c => !('a' ≤ c && c ≤ 'z')) = true ∧
    (Gen.Lex.compoundStarts.all fun e => e.toList.all fun c => !('a' ≤ c && c ≤ 'z')) = true := by decide +kernel

/-- the tokenizer returns, whatever the bytes -/
theorem tokenizer_total (cls : CharClass) (inp : Bytes) : tokenize cls genLexTables inp ≠ .outOfFuel :=
  tokenize_total cls genLexTables inp

theorem exactly_one_eof (cls : CharClass) (inp : Bytes) (toks : List Tok) (cms : List Comment)
    (h : tokenize cls genLexTables inp = .ok toks cms) :
    ∃ body, toks = body ++ [{ ty := 0, value := [], startOff := inp.length, endOff := inp.length }] ∧
      ∀ t ∈ body, t.ty ≠ 0 :=
  tokenize_single_eof cls genLexTables gen_tables_ok inp toks cms h

theorem tokens_in_source_order (cls : CharClass) (inp : Bytes) (toks : List Tok) (cms : List Comment)
    (h : tokenize cls genLexTables inp = .ok toks cms) : SpansFrom 0 toks ∧ lastEnd 0 toks = inp.length :=
  tokenize_spans cls genLexTables inp toks cms h

/-- **C04 (operators)**: maximal munch over today's operator table -/
theorem operator_maximal_munch (bs : Bytes) {o : Bytes × Nat} (h : longestOp genLexTables.operators bs = some o) :
    o ∈ genLexTables.operators ∧ o.1.isPrefixOf bs = true ∧
      ∀ x ∈ genLexTables.operators, x.1.isPrefixOf bs = true → x.1 ≠ [] → x.1.length ≤ o.1.length :=
  longestOp_maximal _ bs h

/-! ## the reference surface: lexemes separated by blanks are read as exactly those lexemes -/

open Gen.Unicode in
/-- `Driver.goClass` with the chunks of the letter and mark tables appended as lists.  Under kernel evaluation
    `Array.append` pushes element by element onto a list-backed array, which is quadratic in the table: one look-up
    in `letter` (several hundred ranges in four chunks) costs about seventy times what it costs in this form. -/
def goClassL : CharClass :=
  { Driver.goClass with
    isLetter := fun c => inRanges ⟨letter_0.toList ++ (letter_1.toList ++ (letter_2.toList ++ letter_3.toList))⟩ c.toNat
    isMark := fun c => inRanges ⟨mark_0.toList ++ mark_1.toList⟩ c.toNat }

open Gen.Unicode in
theorem goClass_eq : Driver.goClass = goClassL := by
  have hl : letter = ⟨letter_0.toList ++ (letter_1.toList ++ (letter_2.toList ++ letter_3.toList))⟩ :=
    Array.ext' (by simp only [letter, Array.toList_append, List.append_assoc])
  have hm : mark = ⟨mark_0.toList ++ mark_1.toList⟩ := Array.ext' (by simp only [mark, Array.toList_append])
  simp only [Driver.goClass, goClassL, ← hl, ← hm]

/-- the classifier dumped from the Go runtime in use treats ASCII as the reference surface assumes -/
theorem go_class_ascii_ok : AsciiOK Driver.goClass := asciiOK_of_bool _ (by rw [goClass_eq]; decide +kernel)
theorem ascii_class_ok : AsciiOK CharClass.ascii := asciiOK_of_bool _ (by decide +kernel)

/-- in today's operator table nothing but the byte itself starts with `(`, `)`, `,` or `;` -/
theorem gen_punct_ok : (∃ ty, PunctOK genLexTables 40 ty) ∧ (∃ ty, PunctOK genLexTables 41 ty) ∧
    (∃ ty, PunctOK genLexTables 44 ty) ∧ (∃ ty, PunctOK genLexTables 59 ty) :=
  ⟨punctOK_of_bool _ _ (by rw [genLexTables_eq]; decide +kernel), punctOK_of_bool _ _ (by rw [genLexTables_eq]; decide +kernel),
   punctOK_of_bool _ _ (by rw [genLexTables_eq]; decide +kernel),
   punctOK_of_bool _ _ (by rw [genLexTables_eq]; decide +kernel)⟩

/-- **C04 (reference surface)**: with the Go classifier and today's tables, any sequence of words, integers and
    `( ) , ;`, each followed by any non-empty run of blanks, is read as exactly that sequence of tokens (keyword type
    from the keyword table, else identifier; number; the punctuation's type), then one end marker, with no comments -/
theorem reference_lexemes_are_the_tokens (lead : Bytes) (items : List Item)
    (hlead : ∀ x ∈ lead, isWS x = true) (hok : ∀ it ∈ items, ItemOK Driver.goClass genLexTables it)
    (hsize : (lead ++ flat items).length ≤ genLexTables.maxInput) (hcount : items.length ≤ genLexTables.maxTokens) :
    ∃ toks, tokenize Driver.goClass genLexTables (lead ++ flat items) = .ok toks [] ∧
      toks.map Tok.key = (items.map fun it => it.1.key Driver.goClass genLexTables) ++ [(0, [])] :=
  tokenize_spell Driver.goClass genLexTables go_class_ascii_ok lead items hlead hok hsize hcount

/-- **C04 (layout independence on the reference surface)** -/
theorem layout_independent (lead1 lead2 : Bytes) (items1 items2 : List Item)
    (hsame : items1.map (·.1.key Driver.goClass genLexTables) = items2.map (·.1.key Driver.goClass genLexTables))
    (hl1 : ∀ x ∈ lead1, isWS x = true) (hl2 : ∀ x ∈ lead2, isWS x = true)
    (hok1 : ∀ it ∈ items1, ItemOK Driver.goClass genLexTables it) (hok2 : ∀ it ∈ items2, ItemOK Driver.goClass genLexTables it)
    (hs1 : (lead1 ++ flat items1).length ≤ genLexTables.maxInput) (hs2 : (lead2 ++ flat items2).length ≤ genLexTables.maxInput)
    (hc1 : items1.length ≤ genLexTables.maxTokens) (hc2 : items2.length ≤ genLexTables.maxTokens) :
    ∃ t1 t2, tokenize Driver.goClass genLexTables (lead1 ++ flat items1) = .ok t1 [] ∧
      tokenize Driver.goClass genLexTables (lead2 ++ flat items2) = .ok t2 [] ∧ t1.map Tok.key = t2.map Tok.key :=
  tokenize_layout_independent Driver.goClass genLexTables go_class_ascii_ok lead1 lead2 items1 items2 hsame hl1 hl2 hok1 hok2 hs1 hs2 hc1 hc2

/-- the hypotheses are satisfiable: `select a , 12 ;` with spaces, line feeds and a tab between the lexemes -/
example : ∃ items : List Item, items.length = 5 ∧ (∀ it ∈ items, ItemOK CharClass.ascii genLexTables it) := by
  refine ⟨[(.word (strBytes "select"), [32]), (.word (strBytes "a"), [32, 10]), (.punct 44, [9]), (.int (strBytes "12"), [32]),
    (.punct 59, [10])], rfl, ?_⟩
  intro it hit
  simp only [List.mem_cons, List.not_mem_nil, or_false] at hit
  rcases hit with rfl | rfl | rfl | rfl | rfl
  · exact ⟨⟨115, strBytes "elect", by decide +kernel, by decide +kernel, by decide +kernel, by decide +kernel⟩, by simp, by decide +kernel⟩
  · exact ⟨⟨97, [], by decide +kernel, by decide +kernel, by simp, by decide +kernel⟩, by simp, by decide +kernel⟩
  · exact ⟨⟨by decide +kernel, gen_punct_ok.2.2.1⟩, by simp, by decide +kernel⟩
  · exact ⟨⟨by decide +kernel, by decide +kernel⟩, by simp, by decide +kernel⟩
  · exact ⟨⟨by decide +kernel, gen_punct_ok.2.2.2⟩, by simp, by decide +kernel⟩

/-! ## the reference grammar, second surface: comments and empty separators, every operator, strings, quoted identifiers -/

/-- **C04 (reference grammar)**: with the Go classifier and today's tables, every sequence of lexemes `Lx` (ASCII words,
    two-word keywords, integers, numbers with fraction or exponent, operators of the operator table, single-quoted
    literals of plain bytes, doubled quotes and the seven backslash escapes, double-quoted and backtick identifiers),
    separated by any mix of blank runs, line comments and block comments — or by nothing where the junction check `seqOK`
    allows it — is read as exactly that sequence of (kind, decoded value) pairs, then one end marker; and the comments
    captured are exactly the separators' comments, in order, with their exact text. -/
theorem reference_grammar_is_read_faithfully (lead : List Piece) (items : List Item2)
    (hlead : lead.all Piece.ok = true) (hok : seqOK Driver.goClass genLexTables items = true)
    (hsize : (sepBytes lead ++ flat2 items).length ≤ genLexTables.maxInput) (hcount : items.length ≤ genLexTables.maxTokens) :
    ∃ toks cs, tokenize Driver.goClass genLexTables (sepBytes lead ++ flat2 items) = .ok toks cs ∧
      toks.map Tok.key = (items.map fun it => it.1.key Driver.goClass genLexTables) ++ [(0, [])] ∧
      cs.map Comment.key = sepComments lead ++ itemsComments items := by
  obtain ⟨toks, cs, h1, h2, h3, _⟩ := tokenize_spell2 Driver.goClass genLexTables go_class_ascii_ok lead items hlead hok hsize hcount
  exact ⟨toks, cs, h1, h2, h3⟩

/-- **C04 (layout independence)**: changing only the blanks and comments between the lexemes never changes the
    sequence of kinds and values -/
theorem layout_independent2 (lead1 lead2 : List Piece) (items1 items2 : List Item2)
    (hsame : items1.map (·.1.key Driver.goClass genLexTables) = items2.map (·.1.key Driver.goClass genLexTables))
    (hl1 : lead1.all Piece.ok = true) (hl2 : lead2.all Piece.ok = true)
    (hok1 : seqOK Driver.goClass genLexTables items1 = true) (hok2 : seqOK Driver.goClass genLexTables items2 = true)
    (hs1 : (sepBytes lead1 ++ flat2 items1).length ≤ genLexTables.maxInput)
    (hs2 : (sepBytes lead2 ++ flat2 items2).length ≤ genLexTables.maxInput)
    (hc1 : items1.length ≤ genLexTables.maxTokens) (hc2 : items2.length ≤ genLexTables.maxTokens) :
    ∃ t1 c1 t2 c2, tokenize Driver.goClass genLexTables (sepBytes lead1 ++ flat2 items1) = .ok t1 c1 ∧
      tokenize Driver.goClass genLexTables (sepBytes lead2 ++ flat2 items2) = .ok t2 c2 ∧ t1.map Tok.key = t2.map Tok.key :=
  tokenize_layout_independent2 Driver.goClass genLexTables go_class_ascii_ok lead1 lead2 items1 items2 hsame hl1 hl2 hok1 hok2
    hs1 hs2 hc1 hc2

/-- **C04 (keyword case)**: spellings that differ only in letter case are read as the same kind -/
theorem keyword_case_does_not_change_the_kind (w1 w2 : Bytes) (h : upper Driver.goClass w1 = upper Driver.goClass w2) :
    ((Lx.word w1).key Driver.goClass genLexTables).1 = ((Lx.word w2).key Driver.goClass genLexTables).1 :=
  word_kind_case_insensitive _ _ w1 w2 h

/-- every operator of today's table is a lexeme of this surface, except those the tokenizer reads through its
    placeholder / dollar-quote branch (first byte `$` or `@`), which are not table look-ups -/
theorem gen_operators_are_lexemes :
    (genLexTables.operators.all fun o =>
      o.1.head? == some 36 || o.1.head? == some 64 || (Lx.op o.1).ok Driver.goClass genLexTables) = true := by
  rw [goClass_eq, genLexTables_eq]
  decide +kernel

/-- the quote characters start no identifier for the Go classifier (side condition of the literal lexemes) -/
theorem go_class_quotes : isIdentStart Driver.goClass 39 = false ∧ isIdentStart Driver.goClass 34 = false := by
  rw [goClass_eq]
  decide +kernel

def kv' (r : Result) : Option (List (Nat × Bytes) × List (Bytes × Bool)) :=
  match r with
  | .ok toks cs => some (toks.map Tok.key, cs.map Comment.key)
  | _ => none

/-- non-vacuity: a statement with numbers in two forms, a backtick identifier with a doubled backtick, comments as the
    only separators, operators juxtaposed with their operands, a literal with a doubled quote and an escape, a quoted
    identifier, a two-word keyword split across a newline, and the same two words kept apart by a comment -/
def sampleItems : List Item2 :=
  [(.word (strBytes "select"), [.blanks [32]]),
   (.num (strBytes "1") (strBytes "50") (strBytes "e-3"), []), (.op (strBytes "+"), []), (.num (strBytes "2") [] (strBytes "E10"), []),
   (.op (strBytes ","), []), (.bq [.ch 111, .dq, .ch 107], []), (.op (strBytes ","), []),
   (.word (strBytes "a"), []), (.op (strBytes "<="), []), (.int (strBytes "1"), []), (.op (strBytes ","), []),
   (.str [.ch 105, .ch 116, .dq, .ch 115, .esc 110], [.block (strBytes "c")]),
   (.word (strBytes "from"), [.blanks [32]]),
   (.qid [.ch 84, .dq, .ch 120], [.line (strBytes "z"), .blanks [32]]),
   (.word (strBytes "where"), [.blanks [10, 9]]),
   (.word (strBytes "x"), [.blanks [32]]), (.compound (strBytes "Group") [32, 10, 9] (strBytes "by"), [.blanks [32]]),
   (.word (strBytes "group"), [.block (strBytes " not a compound ")]), (.word (strBytes "by"), [.blanks [32]]),
   (.word (strBytes "x"), []), (.op (strBytes "->>"), []), (.str [.ch 107], []), (.op (strBytes ";"), [])]

/- (the concrete checks use the ASCII classifier, for which `ascii_class_ok` gives the same theorem: evaluating the
   dumped Unicode case-mapping table inside the kernel costs minutes per word) -/
example : seqOK .ascii genLexTables sampleItems = true := by rw [genLexTables_eq]; decide +kernel
example : flat2 sampleItems = strBytes ("select 1.50e-3+2E10,`o``k`,a<=1,'it''s\\n'/*c*/from \"T\"\"x\"--z\n where\n\tx Group \n\tby " ++
    "group/* not a compound */by x->>'k';") := by simp only [sampleItems, strBytes_eq]; decide +kernel
example : sampleItems.map (·.1.key .ascii genLexTables) =
    [(201, strBytes "select"), (Gen.Lex.ttNumber, strBytes "1.50e-3"), (60, strBytes "+"), (Gen.Lex.ttNumber, strBytes "2E10"),
     (51, strBytes ","), (Gen.Lex.ttIdentifier, strBytes "o`k"), (51, strBytes ","), (Gen.Lex.ttIdentifier, strBytes "a"), (57, strBytes "<="), (Gen.Lex.ttNumber, strBytes "1"),
     (51, strBytes ","), (Gen.Lex.ttSingleQuotedString, strBytes "it's\n"), (202, strBytes "from"),
     (Gen.Lex.ttDoubleQuotedString, strBytes "T\"x"), (203, strBytes "where"), (Gen.Lex.ttIdentifier, strBytes "x"),
     (270, strBytes "Group by"), (226, strBytes "group"), (227, strBytes "by"), (Gen.Lex.ttIdentifier, strBytes "x"),
     (115, strBytes "->>"), (Gen.Lex.ttSingleQuotedString, strBytes "k"), (73, strBytes ";")] := by
  rw [genLexTables_eq]
  simp only [sampleItems, strBytes_eq]
  decide +kernel
example : itemsComments sampleItems =
    [(strBytes "/*c*/", true), (strBytes "--z", false), (strBytes "/* not a compound */", true)] := by
  simp only [sampleItems, strBytes_eq]
  decide +kernel
/-- the theorem's conclusion on the sample, computed by the model itself -/
example : kv' (tokenize .ascii genLexTables (flat2 sampleItems)) =
    some (sampleItems.map (·.1.key .ascii genLexTables) ++ [(0, [])], itemsComments sampleItems) := by
  rw [genLexTables_eq]
  simp only [sampleItems, strBytes_eq]
  decide +kernel
/-- with the Go classifier (no words): `1<=2,'x'"y"` -/
example : seqOK Driver.goClass genLexTables
    [(.int [49], []), (.op [60, 61], []), (.int [50], []), (.op [44], []), (.str [.ch 120], []), (.qid [.ch 121], [])] = true := by
  rw [goClass_eq]; decide +kernel
/-- junctions the check refuses, as it must: `a` directly followed by `b` is one word, `-` directly followed by `-` opens a
    comment, `<` directly followed by `=` is another operator, a literal directly followed by a quote is a doubled quote -/
example : seqOK .ascii genLexTables [(.word (strBytes "a"), []), (.word (strBytes "b"), [])] = false := by decide +kernel
example : seqOK .ascii genLexTables [(.op [45], []), (.op [45], [])] = false := by decide +kernel
example : seqOK .ascii genLexTables [(.op [60], []), (.op [61], [])] = false := by decide +kernel
example : seqOK .ascii genLexTables [(.str [.ch 97], []), (.str [.ch 98], [])] = false := by decide +kernel
example : seqOK .ascii genLexTables [(.op [45], [.blanks [32]]), (.op [45], [])] = true := by decide +kernel
/-- `group by` written as two word lexemes is refused (it is one two-word keyword); `1.e5` has no digit after the point -/
example : seqOK .ascii genLexTables [(.word (strBytes "group"), [.blanks [32]]), (.word (strBytes "by"), [])] = false := by decide +kernel
example : seqOK .ascii genLexTables [(.int (strBytes "1"), []), (.word (strBytes "e5"), [])] = false := by decide +kernel

/-! ## non-vacuity: the model on concrete inputs (ASCII classifier) -/

def kv (r : Result) : Option (List (Nat × Bytes)) :=
  match r with
  | .ok toks _ => some (toks.map fun t => (t.ty, t.value))
  | _ => none

/-- `a<=b --c` : maximal munch, comment skipped, one EOF -/
example : kv (tokenize .ascii genLexTables (strBytes "a<=b --c")) =
    some [(Gen.Lex.ttIdentifier, strBytes "a"), (57, strBytes "<="), (Gen.Lex.ttIdentifier, strBytes "b"), (0, [])] := by
  rw [genLexTables_eq]; decide +kernel

/-- keyword case and blanks do not matter; the compound keyword is read across a newline -/
example : kv (tokenize .ascii genLexTables (strBytes "group\n  by")) =
    some [(270, strBytes "group by"), (0, [])] := by rw [genLexTables_eq]; decide +kernel

/-- a doubled quote is one quote -/
example : kv (tokenize .ascii genLexTables (strBytes "'it''s'")) =
    some [(Gen.Lex.ttSingleQuotedString, strBytes "it's"), (0, [])] := by rw [genLexTables_eq]; decide +kernel

/-- known finding, exhibited by the model: `''''` opens a triple-quoted string and is rejected -/
theorem triple_quote_counterexample :
    tokenize .ascii genLexTables (strBytes "''''") = .err ⟨"E1002", .at 0⟩ := by decide +kernel

end GoSQLXModel.Props.C04
