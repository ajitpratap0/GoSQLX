import GoSQLXModel.Model.LexGen
import GoSQLXModel.Model.PosCache
import GoSQLXModel.Proofs.LexSpans
import GoSQLXModel.Proofs.LexSpell2
import GoSQLXModel.Proofs.LexSpell3
import GoSQLXModel.Proofs.LexGenBytes
/-!
# C05 — Reported source positions point at the right characters

> Each token's start and end, each comment's span, and the location carried by each tokenizer or position-tracking
> parser error identify the line and column at which that element really begins and ends in the input: 1-based, never
> decreasing along the stream, always inside the input, end of one element never after the start of the next. (…)

In the model a token's span is a pair of byte offsets, `startOff` = the offset of the suffix the reader was started on
(after trivia), `endOff` = the offset of the suffix it returned; line and column are the pure function `locOf` of the
input and an offset (the meaning of `toSQLPosition`; the incremental cache of the implementation is an optimisation
of it, tied by the correspondence on every token, comment and error of every test input).

Proved (every classifier, table, input):
* `tokenize_spans` — start ≤ end ≤ next start, the end marker at the end of the input: never decreasing, never
  overlapping, inside the input;
* `skipTriviaF_head` — a token starts at a non-blank byte (its own first character, not the blank or comment before it);
* `locOf_one_based`, `locOf_line_mono`, `locOf_col_mono` — 1-based, and (line, column) is monotone in the offset;
* `locOf_col_tabfree` — on a tab-free line the column is the byte distance from the line start plus one.
Together: locations are non-decreasing along the stream.

* `reference_grammar_spans` (from `tokenize_spell2`, `spans_slice`) — on the reference grammar of C04 (words, two-word
  keywords, numbers, operators, quoted forms; blanks, comments or nothing between them) the i-th token's start and end
  offsets are exactly where the i-th lexeme was written, whatever precedes it (comments, blank lines, multi-line
  literals): cutting the input at the token's span gives back the lexeme's own bytes, and the end marker sits at the end
  of the input.

  Every comment's span is where the comment was written (`sepSpans`, `itemsCommentSpans`; a line comment's span
  includes the newline that ends it).

* `unterminated_literal_located_at_its_quote` (`Proofs/LexSpell3.lean`) — a tokenizer error after a reference text is
  located at the offending element: a text of the reference grammar followed by a single-quoted literal that never closes
  is rejected with `E1002` at the byte offset of the literal's opening quote, whatever comments, blank lines and
  multi-line literals precede it (`run_seqOKT` brings the loop to the quote, `lexHead_err` gives the error there: the
  tokens read before change nothing and no other error comes first).

**Partial**: that a *parser* error is located at the offending token is decided dynamically (single-token corruptions
through ParseFromModelTokensWithPositions); the Lean side covers the tokenizer.
-/
namespace GoSQLXModel.Props.C05
open GoSQLXModel GoSQLXModel.Lex

/-- lexicographic order on (line, column) -/
def locLe (a b : Nat × Nat) : Prop := a.1 < b.1 ∨ (a.1 = b.1 ∧ a.2 ≤ b.2)

/-- **C05 (monotone)**: a later offset never has an earlier location -/
theorem loc_monotone (inp : Bytes) {i j : Nat} (h : i ≤ j) : locLe (locOf inp i) (locOf inp j) := by
  unfold locLe
  have hl := locOf_line_mono inp h
  by_cases he : (locOf inp i).1 = (locOf inp j).1
  · exact Or.inr ⟨he, locOf_col_mono inp h he⟩
  · exact Or.inl (by omega)

theorem loc_one_based (inp : Bytes) (off : Nat) : 1 ≤ (locOf inp off).1 ∧ 1 ≤ (locOf inp off).2 :=
  locOf_one_based inp off

/-- **C05 (ordering, containment)** at today's tables -/
theorem spans_ordered_inside (cls : CharClass) (inp : Bytes) (toks : List Tok) (cms : List Comment)
    (h : tokenize cls genLexTables inp = .ok toks cms) : SpansFrom 0 toks ∧ lastEnd 0 toks = inp.length :=
  tokenize_spans cls genLexTables inp toks cms h

/-- consecutive tokens: locations in stream order (start ≤ end ≤ next start as locations) -/
theorem adjacent_locations_ordered (inp : Bytes) (lo : Nat) (a b : Tok) (rest : List Tok)
    (h : SpansFrom lo (a :: b :: rest)) :
    locLe (locOf inp a.startOff) (locOf inp a.endOff) ∧ locLe (locOf inp a.endOff) (locOf inp b.startOff) := by
  simp only [SpansFrom] at h
  exact ⟨loc_monotone inp h.2.1, loc_monotone inp h.2.2.1⟩

/-- **C05 (own first character)**: a token never starts at a blank -/
theorem token_starts_at_nonblank (inp : Bytes) (fuel : Nat) (rest : Bytes) (cs : List Comment) (b : UInt8) (tl : Bytes)
    (h : (skipTriviaF inp fuel rest cs).1 = b :: tl) : isWS b = false :=
  skipTriviaF_head inp fuel rest cs b tl h

/-- **C05 (columns)**: exact column on tab-free lines -/
theorem column_is_byte_distance (inp : Bytes) (off : Nat)
    (h : ∀ b ∈ (inp.take off).reverse.takeWhile (· != 10), b ≠ 9) :
    (locOf inp off).2 = 1 + ((inp.take off).reverse.takeWhile (· != 10)).length :=
  locOf_col_tabfree inp off h

/-- **C05 (each element is located at its own characters)**: for every text of the reference grammar the token spans
    are the lexemes' positions in the text, and cutting the text at a span yields the lexeme as written -/
theorem reference_grammar_spans (cls : CharClass) (hA : AsciiOK cls) (lead : List Piece) (items : List Item2)
    (hlead : lead.all Piece.ok = true) (hok : seqOK cls genLexTables items = true)
    (hsize : (sepBytes lead ++ flat2 items).length ≤ genLexTables.maxInput) (hcount : items.length ≤ genLexTables.maxTokens) :
    ∃ toks cs, tokenize cls genLexTables (sepBytes lead ++ flat2 items) = .ok toks cs ∧
      toks.map Tok.span = spans (sepBytes lead).length items ++
        [((sepBytes lead ++ flat2 items).length, (sepBytes lead ++ flat2 items).length)] ∧
      (spans (sepBytes lead).length items).map
        (fun se => ((sepBytes lead ++ flat2 items).drop se.1).take (se.2 - se.1)) = items.map (·.1.bytes) ∧
      cs.map Comment.span = sepSpans 0 lead ++ itemsCommentSpans (sepBytes lead).length items := by
  obtain ⟨toks, cs, h1, _, _, h4, h5⟩ := tokenize_spell2 cls genLexTables hA lead items hlead hok hsize hcount
  exact ⟨toks, cs, h1, h4, spans_slice items (sepBytes lead), h5⟩

/-- **C05 (error location)**: after any reference text, an unterminated single-quoted literal (plain body) is reported as
    `E1002` at its opening quote -/
theorem unterminated_literal_located_at_its_quote (cls : CharClass) (hA : AsciiOK cls) (h39 : isIdentStart cls 39 = false)
    (lead : List Piece) (items : List Item2) (body : Bytes)
    (hlead : lead.all Piece.ok = true) (hb : plainBody body = true)
    (hok : seqOKT cls genLexTables (39 :: body) items = true)
    (hsize : (sepBytes lead ++ (flat2 items ++ 39 :: body)).length ≤ genLexTables.maxInput)
    (hcount : items.length < genLexTables.maxTokens) :
    tokenize cls genLexTables (sepBytes lead ++ (flat2 items ++ 39 :: body)) =
      .err ⟨"E1002", .at (sepBytes lead ++ flat2 items).length⟩ :=
  unterminated_literal_located cls genLexTables hA h39 lead items body hlead hb hok hsize hcount

/-- the token-limit error is located at the first element beyond the limit: after any reference text of exactly
    `maxTokens` lexemes (comments, blank lines and multi-line literals included) the error's offset is the offset of what
    follows -/
theorem token_limit_error_located_at_the_excess (cls : CharClass) (hA : AsciiOK cls) (lead : List Piece) (items : List Item2)
    (tail : Bytes) (htail : stopB tail = true) (hne : tail ≠ []) (hlead : lead.all Piece.ok = true)
    (hok : seqOKT cls genLexTables tail items = true)
    (hsize : (sepBytes lead ++ (flat2 items ++ tail)).length ≤ genLexTables.maxInput)
    (hcount : items.length = genLexTables.maxTokens) :
    tokenize cls genLexTables (sepBytes lead ++ (flat2 items ++ tail)) =
      .err ⟨"E1007", .at (sepBytes lead ++ flat2 items).length⟩ := by
  rw [token_limit_refuses cls genLexTables hA lead items tail htail hne hlead hok hsize hcount,
    offset_eq (List.append_assoc ..).symm]

/-- non-vacuity: a leading comment, a blank line, a literal that spans two lines, then `x`: every token is located at
    its own first character (line 5, column 2 for `x`) -/
def spanItems : List Item2 :=
  [(.word (strBytes "select"), [.blanks [32]]), (.str [.ch 97, .ch 10, .ch 98], [.blanks [10, 32]]), (.word (strBytes "x"), [])]
def spanLead : List Piece := [.line (strBytes " hi"), .blanks [10]]
example : seqOK .ascii genLexTables spanItems = true := by rw [genLexTables_eq]; decide +kernel
example : sepBytes spanLead ++ flat2 spanItems = strBytes "-- hi\n\nselect 'a\nb'\n x" := by decide +kernel
example : (spans (sepBytes spanLead).length spanItems).map (fun se => (locOf (sepBytes spanLead ++ flat2 spanItems) se.1,
    locOf (sepBytes spanLead ++ flat2 spanItems) se.2)) = [((3, 1), (3, 7)), ((3, 8), (4, 3)), ((5, 2), (5, 3))] := by decide +kernel

example : sepSpans 0 spanLead ++ itemsCommentSpans (sepBytes spanLead).length spanItems = [(0, 6)] := by decide +kernel

/-- non-vacuity for the error location: the same text continued by `, 'oops` — rejected at line 5, column 6 -/
example : seqOKT .ascii genLexTables (39 :: strBytes "oops") (spanItems.dropLast ++ [(.word (strBytes "x"), [.blanks [32]]), (.op [44], [.blanks [32]])]) = true ∧
    plainBody (strBytes "oops") = true := by rw [genLexTables_eq]; decide +kernel
example : tokenize .ascii genLexTables (strBytes "-- hi\n\nselect 'a\nb'\n x , 'oops") = .err ⟨"E1002", .at 25⟩ ∧
    locOf (strBytes "-- hi\n\nselect 'a\nb'\n x , 'oops") 25 = (5, 6) := by
  rw [genLexTables_eq]
  decide +kernel

/-! non-vacuity: the token after a comment and a blank line is located at its own first character -/
def sample : Bytes := strBytes "-- hi\n\n  SELECT 1"

example : (match tokenize .ascii genLexTables sample with
    | .ok toks _ => toks.map fun t => (locOf sample t.startOff, locOf sample t.endOff)
    | _ => []) = [((3, 3), (3, 9)), ((3, 10), (3, 11)), ((3, 11), (3, 11))] := by
  rw [genLexTables_eq]
  decide +kernel

/-- an unterminated quoted identifier that runs into a newline is located at its opening quote -/
example : tokenize .ascii genLexTables (strBytes "a\n \"two\nlines\"") = .err ⟨"E1002", .at 3⟩ ∧
    locOf (strBytes "a\n \"two\nlines\"") 3 = (2, 2) := by rw [genLexTables_eq]; decide +kernel

/-- strict lexicographic order on (line, column) -/
def locLt (a b : Nat × Nat) : Prop := a.1 < b.1 ∨ (a.1 = b.1 ∧ a.2 < b.2)

theorem loc_start (inp : Bytes) : locOf inp 0 = (1, 1) := by simp [locOf]

theorem line_is_linefeeds_before (inp : Bytes) (off : Nat) :
    (locOf inp off).1 = 1 + ((inp.take off).filter (· == 10)).length := rfl

theorem loc_step_strict (inp : Bytes) (i : Nat) (h : i < inp.length) : locLt (locOf inp i) (locOf inp (i + 1)) := by
  rw [locOf_succ inp i h]
  unfold locLt
  split
  · left; simp
  · right; simp only [true_and]; split <;> omega

/-- **C05 (strictly monotone)**: within the input a strictly later offset has a strictly later location -/
theorem loc_strict (inp : Bytes) {i j : Nat} (hij : i < j) (hj : j ≤ inp.length) : locLt (locOf inp i) (locOf inp j) := by
  have h1 := loc_step_strict inp i (by omega)
  have h2 := loc_monotone inp (show i + 1 ≤ j by omega)
  unfold locLt at *
  unfold locLe at h2
  omega

/-- **C05 (a location names one place)**: two offsets of the input with the same (line, column) are the same offset -/
theorem loc_injective (inp : Bytes) {i j : Nat} (hi : i ≤ inp.length) (hj : j ≤ inp.length)
    (h : locOf inp i = locOf inp j) : i = j := by
  rcases Nat.lt_trichotomy i j with hlt | heq | hgt
  · have := loc_strict inp hlt hj; rw [h] at this; unfold locLt at this; omega
  · exact heq
  · have := loc_strict inp hgt hi; rw [h] at this; unfold locLt at this; omega

end GoSQLXModel.Props.C05
