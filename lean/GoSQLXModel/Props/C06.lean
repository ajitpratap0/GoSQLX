import GoSQLXModel.Proofs.PrintRoundTrip
import GoSQLXModel.Gen.PrintPrec
import GoSQLXModel.Proofs.NameQuote
/-!
# C06 — Serialising a tree and re-parsing gives the same tree; formatting is stable

> For every accepted input and every formatting option set, the SQL text produced from its tree (…) is itself accepted
> and parses to a tree equal to the original up to the letter case of keywords and operator words (…). Formatting
> already formatted output returns it unchanged.

Model: `Model/PrintExpr.lean` — the rules of pkg/sql/ast/sql.go on the expression ladder: `operandSQL` (parenthesise iff
`p < parent || (p = parent && (right || parent = 4))`) as used by `BinaryExpression.SQL` (both operands, the operator's
strength; IS NULL: the left operand; LIKE / ILIKE: the pattern at strength 9), `UnaryExpression.SQL` (NOT),
`BetweenExpression.SQL` (three operands at (4, right)), `InExpression.SQL` (tested expression at (4, right), values bare),
`FunctionCall.SQL` (arguments bare), keywords in the serialiser's fixed spelling — applied by `printG` to the reference
grammar.
* `print_eq_render`: the serialiser writes exactly the reference rendering `render 1` (minimal parentheses) of the
  tree with its keywords in the fixed spelling (`kwNorm`);
* `print_parse`: hence, with `parse_render` (C03), every expression the serialiser writes is read back as that tree,
  which is the original up to the letter case of LIKE / ILIKE (`print_parse_same_tree`) — for every well-formed tree of
  the grammar, whatever the operators, predicates, calls, nesting and associativity;
* `print_stable`: the tree read back is written as the same text (formatting formatted output changes nothing).
Obligation on the regenerated precedence table of the serialiser (`sqlOperatorPrecedence`): every operator spelling has
the strength of its class (`gen_prec_table`), which is what connects spellings to `Op.prec`.

Names: `Model/NameQuote.lean` — `safeIdentifier` (bare when every character is a letter, digit, `_`, `*`, `.`; otherwise
between double quotes, double quotes doubled) on ASCII names, compared with `Identifier.SQL` by the driver op `qname`.
* `quoted_name_is_read_back`: whatever the ASCII name (no line feed), its quoted form is read by the tokenizer model as
  ONE double-quoted token whose value is the name — doubled quotes, blanks, dots, operators, comment openers inside it
  included; `unsafe_name_is_written_so_that_it_reads_back`: so whenever `safeIdentifier` decides to quote, the name survives;
* the recorded finding in the model: a dot inside or a digit first counts as safe and the name is written bare
  (`name_with_dot_is_written_bare`, `name_with_digit_first_is_written_bare`).

**Partial**: CASE, CAST, sub-queries, clauses, statements, the formatting options and the three other serialisers
(Format, formatter, CLI) are decided by the round-trip oracle on generated statements and the corpora.
-/
namespace GoSQLXModel.Props.C06
open GoSQLXModel GoSQLXModel.ExprParse

/-- the serialiser's table gives every operator spelling the strength of its class, and 8 to anything else -/
theorem gen_prec_table :
    (Gen.Print.precTable.all fun e =>
      e.2 == specPrec e.1 || ["LIKE", "ILIKE", "SIMILAR TO", "REGEXP", "RLIKE", "IS NULL", "IS NOT NULL"].contains e.1 && e.2 == 4) = true ∧
    (["OR", "AND", "=", "<>", "!=", "<", ">", "<=", ">=", "||", "+", "-", "*", "/", "%"].all fun op =>
      Gen.Print.precTable.any fun e => e.1 == op && e.2 == specPrec op) = true ∧
    Gen.Print.precDefault = 8 := by decide +kernel

/-- **C06 (expression core)**: written, then read: the same tree -/
theorem written_expression_reads_back (g : G) (hw : g.WF = true) (X : List PTok) (hp : PrimStop X) (hn : N1 X)
    (hd : need 1 g + 1 ≤ maxDepth) :
    (∃ f0, ∀ f, f0 ≤ f → pExpr f 0 (printG g ++ X) = .ok (kwNorm g).toEx X) ∧ (kwNorm g).toEx.norm = g.toEx.norm :=
  ⟨print_parse g hw X hp hn hd, print_parse_same_tree g⟩

/-- formatting what was formatted changes nothing: the tree read back is written as the same text -/
theorem second_writing_is_the_first (g : G) : printG (kwNorm g) = printG g := print_stable g

/-- the serialiser's text is the minimally parenthesised rendering -/
theorem serialiser_writes_reference_rendering (g : G) : printG g = render 1 (kwNorm g) := print_eq_render g

/-- a quoted name is read back as one token holding the name, for every ASCII name without a line feed -/
theorem quoted_name_is_read_back (cls : CharClass) (tb : Lex.Tables) (inp s R : Lex.Bytes)
    (h34 : Lex.isIdentStart cls 34 = false) (hs : s.all Lex.nameByte = true) (hR : Lex.followQuote 34 R = true) :
    Lex.nextToken cls tb inp (Lex.quoteName s ++ R) = .ok ({ ty := tb.ttDouble, value := s, quote := 34 }, R) :=
  Lex.quoted_name_reads_back cls tb inp s R h34 hs hR

/-- whenever the serialiser's rule quotes a name, what it writes is read back as that name -/
theorem unsafe_name_is_written_so_that_it_reads_back (cls : CharClass) (tb : Lex.Tables) (inp s R : Lex.Bytes)
    (h34 : Lex.isIdentStart cls 34 = false) (hs : s.all Lex.nameByte = true) (hR : Lex.followQuote 34 R = true)
    (hne : s.isEmpty = false) (hunsafe : s.all Lex.safeByte = false) :
    Lex.nextToken cls tb inp (Lex.safeIdentifier s ++ R) = .ok ({ ty := tb.ttDouble, value := s, quote := 34 }, R) :=
  Lex.safeIdentifier_quoted_reads_back cls tb inp s R h34 hs hR hne hunsafe

/-- the recorded finding (`name-written-bare:…:dot`, `…:digit-first`), in the model -/
theorem name_with_dot_is_written_bare : Lex.safeIdentifier [97, 46, 98] = [97, 46, 98] := Lex.safeIdentifier_dot_written_bare
theorem name_with_digit_first_is_written_bare : Lex.safeIdentifier [49, 115, 116] = [49, 115, 116] :=
  Lex.safeIdentifier_digit_first_written_bare

/-- non-vacuity: `first name` (102 105 114 115 116 32 110 97 109 101) and `x"y` meet the hypotheses and are quoted -/
example : (([102, 105, 114, 115, 116, 32, 110, 97, 109, 101] : Lex.Bytes).all Lex.nameByte = true ∧
    ([102, 105, 114, 115, 116, 32, 110, 97, 109, 101] : Lex.Bytes).all Lex.safeByte = false) ∧
    Lex.safeIdentifier [120, 34, 121] = [34, 120, 34, 34, 121, 34] := by decide

/-! non-vacuity: `a - (b - c)` keeps its parentheses, `(a - b) - c` loses them, `NOT (a AND b)` and `(a < b) = c` keep them -/
def ia : G := .atom (.ident "a")
def ib : G := .atom (.ident "b")
def ic : G := .atom (.ident "c")
def t (k : TK) (s : String) : PTok := ⟨k, s⟩

example : printG (.bin .minus "-" ia (.bin .minus "-" ib ic)) =
    [t .ident "a", t .minus "-", lp, t .ident "b", t .minus "-", t .ident "c", rp] := by decide +kernel
example : printG (.bin .minus "-" (.bin .minus "-" ia ib) ic) =
    [t .ident "a", t .minus "-", t .ident "b", t .minus "-", t .ident "c"] := by decide +kernel
example : printG (.not "NOT" (.bin .and "AND" ia ib)) =
    [t .not "NOT", lp, t .ident "a", t .and "AND", t .ident "b", rp] := by decide +kernel
example : printG (.bin .cmp "=" (.bin .cmp "<" ia ib) ic) =
    [lp, t .ident "a", t .cmp "<", t .ident "b", rp, t .cmp "=", t .ident "c"] := by decide +kernel

/-- `a NOT BETWEEN (b = c) AND b + c`, `NOT (a IS NULL)` vs `(NOT a) IS NULL`, `a LIKE (b || c)` -/
example : printG (.between (some "not") "between" "and" ia (.bin .cmp "=" ib ic) (.bin .plus "+" ib ic)) =
    [t .ident "a", t .not "NOT", t .between "BETWEEN", lp, t .ident "b", t .cmp "=", t .ident "c", rp, t .and "AND",
     t .ident "b", t .plus "+", t .ident "c"] := by decide +kernel
example : printG (.isnull "is" none "null" (.not "NOT" ia)) =
    [lp, t .not "NOT", t .ident "a", rp, t .is "IS", t .null "NULL"] := by decide +kernel
example : printG (.not "NOT" (.isnull "is" none "null" ia)) =
    [t .not "NOT", t .ident "a", t .is "IS", t .null "NULL"] := by decide +kernel
example : printG (.like none (t .like "like") ia (.bin .cat "||" ib ic)) =
    [t .ident "a", t .like "like", lp, t .ident "b", t .cat "||", t .ident "c", rp] := by decide +kernel

end GoSQLXModel.Props.C06
