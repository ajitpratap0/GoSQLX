import GoSQLXModel.Proofs.CancelPrompt
import GoSQLXModel.Model.Batch
import GoSQLXModel.Proofs.BatchSpec
/-!
# C07 — All parsing and validation entry points agree

> … the convenience parse call, its byte, context, timeout and batch variants, the low-level pipeline
> with and without position tracking, the validators and recovery-mode parsing all accept it or all
> reject it; those that return a tree return equal trees and those that fail report the same error
> code.  A batch call over a list returns exactly what the individual calls return and fails at the
> first failing index.

The three copies of the statement loop and the recovery loop are modelled over an *arbitrary* statement
oracle (every token list, every behaviour of parseStatement that never moves backwards):
* `parse_eq_withPositions`, `parseContext_never_eq_parse` — the copies compute the same result, in strict
  and non-strict mode (the strict-mode drift of ParseContext was repaired; the model now has the checks in
  all copies and the correspondence run compares the real entry points in strict mode too);
* `recovery_no_error_of_parse_ok`, `recovery_error_of_parse_err` — recovery reports no error exactly when
  strict parsing succeeds (inputs whose failure lies inside the token stream);
* `Batch.batch_ok_iff`, `Batch.batch_err_first` — batch = map with first-failure; `batch_is_spec`,
  `batch_fails_iff_first_failure`, `batch_all_ok`, `batch_of_concatenation` (Proofs/BatchSpec.lean) — the loop with
  running index and accumulator equals the written-down specification, fails *exactly* when some call fails (at the
  first such index, with that call's error), and splits over concatenated lists.
The wrappers (Validate → Parse, ParseBytes → Parse, ParseWithTimeout → ParseWithContext, gosqlx.* → parser.*)
delegate; that they add only `%w` layers is C13's `gen_gosqlx_wraps`, and their agreement on real inputs
is decided by the differential run over all pairs of entry points.
-/
namespace GoSQLXModel.Props.C07
open GoSQLXModel GoSQLXModel.Loops

theorem parse_eq_withPositions (I : Input) (strict : Bool) (f pos : Nat) (acc : List Nat) :
    parseWithPositionsLoop I strict f pos acc = parseLoop I strict f pos acc :=
  Loops.parse_eq_withPositions I strict f pos acc

theorem parseContext_eq_parse (I : Input) (strict : Bool) (polls : Nat → Nat) (f : Nat) :
    parseContextLoop I strict (fun _ => false) polls f 0 0 [] = (parseLoop I strict f 0 []).map CRes.done :=
  Loops.parseContext_never_eq_parse I strict polls f 0 0 []

theorem recovery_iff_parse_ok (I : Input) (f : Nat) (l : List Nat) (h : parseLoop I false f 0 [] = some (.ok l)) :
    recLoop I f 0 [] [] = some (l, []) := recovery_no_error_of_parse_ok I f l h

theorem recovery_iff_parse_fails (I : Input) (f c p : Nat) (h : parseLoop I false f 0 [] = some (.err c p))
    (hm : more I p = true) (f' : Nat) (r) (hr : recLoop I f' 0 [] [] = some r) : r.2 ≠ [] :=
  recovery_error_of_parse_err I f c p h hm f' r hr

theorem batch_is_spec {α β ε : Type} (f : α → Except ε β) (qs : List α) : Batch.batch f 0 qs [] = Batch.spec f qs :=
  Batch.batch_zero f qs

theorem batch_fails_iff_first_failure {α β ε : Type} (f : α → Except ε β) (qs : List α) (k : Nat) (e : ε) :
    Batch.batch f 0 qs [] = .error (k, e) ↔
      ∃ pre q post, qs = pre ++ q :: post ∧ pre.length = k ∧ f q = .error e ∧ ∀ p ∈ pre, ∃ r, f p = .ok r :=
  Batch.batch_err_iff f qs k e

theorem batch_all_ok {α β ε : Type} (f : α → Except ε β) (qs : List α) (h : ∀ q ∈ qs, ∃ r, f q = .ok r) :
    ∃ rs, Batch.batch f 0 qs [] = .ok rs ∧ qs.map f = rs.map Except.ok := Batch.batch_ok_of_all f qs h

theorem batch_of_concatenation {α β ε : Type} (f : α → Except ε β) (xs ys : List α) :
    Batch.batch f 0 (xs ++ ys) [] = match Batch.batch f 0 xs [] with
      | .ok rs => Batch.batch f xs.length ys rs
      | .error ke => .error ke := Batch.batch_append f xs ys

/-- non-vacuity: the third of four calls fails; the fourth (which would fail too) is not reported -/
example : Batch.batch (fun n : Nat => if n % 2 = 0 then Except.ok (n / 2) else Except.error n) 0 [2, 4, 5, 7] []
    = (.error (2, 5) : Except (Nat × Nat) (List Nat)) := by rfl

/-- validate-only entry points: the verdict of Parse with the tree discarded -/
def validate (I : Input) (strict : Bool) (f : Nat) : Option (Option (Nat × Nat)) :=
  (parseLoop I strict f 0 []).map fun r => match r with | .ok _ => none | .err c p => some (c, p)

theorem validate_iff_parse (I : Input) (strict : Bool) (f : Nat) (l : List Nat) :
    parseLoop I strict f 0 [] = some (.ok l) → validate I strict f = some none := by
  intro h; simp [validate, h]

theorem validate_same_code (I : Input) (strict : Bool) (f c p : Nat) :
    parseLoop I strict f 0 [] = some (.err c p) → validate I strict f = some (some (c, p)) := by
  intro h; simp [validate, h]

/-- non-vacuity: `SELECT ; bad ; SELECT` with a failing middle statement — strict parsing fails at it,
    recovery returns the two good statements and that one error -/
def demo : Input :=
  { kind := fun i => if i = 1 ∨ i = 3 then .semi else if i ≥ 5 then .eof else .start,
    n := 6,
    stmt := fun p => if p = 2 then { ok := false, stop := 2, code := 2002 } else { ok := true, stop := p + 1, code := 0 } }

example : parseLoop demo false 8 0 [] = some (.err 2002 2) := by decide
example : recLoop demo 8 0 [] [] = some ([0, 4], [2]) := by decide

/-- the strict-mode drift that was repaired: on `; SELECT` the semicolon check decides the answer (E2004 in strict mode,
    one statement otherwise), so a copy of the loop without it would differ (sensitivity of `parseContext_eq_parse`) -/
def semiFirst : Input :=
  { kind := fun i => if i = 0 then .semi else if i = 1 then .start else .eof, n := 3,
    stmt := fun p => { ok := true, stop := p + 1, code := 0 } }
example : parseLoop semiFirst true 5 0 [] = some (.err E2004 0) ∧ parseLoop semiFirst false 5 0 [] = some (.ok [1]) := by decide

end GoSQLXModel.Props.C07
