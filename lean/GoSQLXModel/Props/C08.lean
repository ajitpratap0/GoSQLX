import GoSQLXModel.Model.Instance
import GoSQLXModel.Gen.ParserInstance
import GoSQLXModel.Gen.TokenizerInstance
/-!
# C08 — Results never depend on what a reused or pooled object did before

> The outcome of any call on a tokenizer or parser instance depends only on that call's input and
> the configuration the current holder gave the instance, never on earlier inputs, failures or
> cancellations, or on how a previous holder configured the instance.  An instance obtained from a
> pool, or reset, behaves exactly like a newly constructed one.

* `Instance.history_independent` (Model/Instance.lean) — generic, for every history of calls.
* `gen_parser_covered` / `gen_tokenizer_covered` — on the tables re-extracted from today's source,
  every field any method reads is overwritten by each entry point before its first loop, or is stable
  (depth, ctx, holder configuration), or is dead behind a validity flag the entry point clears.
* `gen_depth_paired`, `gen_ctx_restored`, `gen_config_not_written` — the three syntactic facts that
  justify treating depth / ctx / configuration as stable.
* `gen_resets_complete` — Reset and Release assign every field, so a reset or pooled instance equals a
  new one field by field (`Instance.reset_fresh`).
-/
namespace GoSQLXModel.Props.C08
open GoSQLXModel GoSQLXModel.Instance

def parserStable : List String := Gen.parserConfig ++ ["depth", "ctx"]
def tokenizerStable : List String := Gen.tokenizerConfig

theorem gen_parser_covered :
    coverOffenders Gen.parserEntries Gen.parserReads parserStable Gen.parserGuardedReads = [] := by decide +kernel

theorem gen_tokenizer_covered :
    coverOffenders Gen.tokenizerEntries Gen.tokenizerReads tokenizerStable Gen.tokenizerGuardedReads = [] := by
  decide +kernel

/-- every `depth++` is immediately followed by its deferred `depth--` (so depth returns to its entry
    value on every path out of the function, error paths included) -/
theorem gen_depth_paired : Gen.parserDepthIncs.all (·.2) = true := by decide +kernel
theorem gen_ctx_restored : Gen.parserCtxRestored = true := by decide
theorem gen_config_not_written : Gen.parserConfigWrites = [] ∧ Gen.tokenizerConfigWrites = [] := by decide

theorem gen_resets_complete :
    resetOffenders Gen.parserResets Gen.parserFields = [] := by decide +kernel

/-- the tokenizer's Reset need not clear holder configuration that tokenizing never reads, nor the cache
    payload that is dead behind `posCacheValid`; everything else must be assigned -/
def tokenizerMustReset : List String :=
  Gen.tokenizerFields.filter fun f =>
    !(Gen.tokenizerConfig.contains f) && !(Gen.tokenizerGuardedReads.any (·.1 == f))

theorem gen_tokenizer_reset_complete :
    resetOffenders Gen.tokenizerResets tokenizerMustReset = [] := by decide +kernel

/-- the table handed to the generic theorem -/
def parserTable : Table :=
  { reads := Gen.parserReads, stable := parserStable, writes := lookup Gen.parserEntries }

theorem parser_covered : Covered parserTable (Gen.parserEntries.map (·.1)) :=
  covered_of_offenders (show Gen.parserGuardedReads = [] by decide ▸ gen_parser_covered) (by decide +kernel)

/-- **C08 (parser)**: for every semantics that reads only the extracted `reads` set and restores the
    stable fields, the outcome of any probe after any history equals its outcome on a fresh instance
    with the same configuration. -/
theorem parser_history_independent (S : Sem) (s0 : St) (hro : ReadsOnly parserTable S)
    (hr : Restores parserTable S (Gen.parserEntries.map (·.1)) s0)
    (h : List (String × Nat)) (hh : ∀ c ∈ h, c.1 ∈ Gen.parserEntries.map (·.1))
    (c : String × Nat) (hc : c.1 ∈ Gen.parserEntries.map (·.1)) :
    outcome parserTable S (run parserTable S s0 h) c = outcome parserTable S s0 c :=
  history_independent parserTable S _ s0 parser_covered hro hr h hh c hc

theorem parser_reset_is_fresh (s : St) :
    ∀ f ∈ Gen.parserFields, reset (lookup Gen.parserResets "Reset") s f = 0 :=
  reset_fresh Gen.parserFields _ (by decide +kernel) s

/-- the table really lists the five entry points -/
example : Gen.parserEntries.map (·.1) =
    ["Parse", "ParseContext", "ParseWithPositions", "ParseWithRecovery", "parseWithRecovery"] := by decide

/-- sensitivity: an entry point that forgets to overwrite a field it reads is an offender
    (the shape of the stale-positions defect) -/
example : coverOffenders [("Parse", ["tokens", "currentPos"])] ["tokens", "currentPos", "positions"] ["depth"] []
    = [("Parse", "positions")] := by decide

/-- and the model then really exhibits history dependence: a probe's outcome differs after a call
    that left `positions` set -/
def leakyTable : Table := { reads := ["positions"], stable := [], writes := fun e => if e == "WithPos" then ["positions"] else [] }
def leakySem : Sem := { init := fun _ i _ => i, out := fun _ _ s => s "positions", post := fun _ _ s => s }
theorem stale_positions_counterexample :
    outcome leakyTable leakySem (run leakyTable leakySem (fun _ => 0) [("WithPos", 7)]) ("Parse", 1)
      ≠ outcome leakyTable leakySem (fun _ => 0) ("Parse", 1) := by decide

end GoSQLXModel.Props.C08
