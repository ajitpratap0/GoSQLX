import GoSQLXModel.Model.Pool
import GoSQLXModel.Proofs.PoolType
import GoSQLXModel.Gen.AstTables
import GoSQLXModel.Gen.Structure
/-!
# C09 — Returned values belong to the caller; pooled nodes come back clean

> Every node or container obtained from the node pools is indistinguishable from a freshly
> constructed one, whatever was released into the pools before.

Quantifier: every pooled type × every field of that type populated with arbitrary non-zero
content before release; all histories of put/get.

* `Pool.clean_invariant` (Model/Pool.lean) is the generic theorem: for every table in which each
  pool-return site clears every field of its element type, every history of put/get over
  arbitrary dirty nodes hands out only clean nodes.
* `gen_pool_ok` re-checks, on the table extracted from today's pool.go, that no
  (site, field) is left uncleared.  It is a kernel computation over the regenerated table.
* `pooled_nodes_clean` instantiates the generic theorem at the extracted table.
* `pooled_nodes_typed`, `pool_entry_handed_out_once`, `pool_growth` (Proofs/PoolType.lean) — over every history the
  nodes handed out are one per `get`, each of the type asked for (with `gen_pool_put_matches_get`: no type confusion
  on reuse); taking an entry removes exactly that entry, so no entry reaches two callers; the pool grows by at most
  one entry per release.
-/
namespace GoSQLXModel.Props.C09
open GoSQLXModel GoSQLXModel.Pool

theorem gen_pool_ok : poolOffenders Gen.astSchema Gen.poolSites = [] := by decide +kernel

/-- a node returned to a pool goes to the pool its `Get` function draws that type from (no type confusion on reuse) -/
theorem gen_pool_put_matches_get :
    (Gen.Structure.poolPuts.all fun e => e.2.2.2 == "" || e.2.2.1 == e.2.2.2) = true ∧ Gen.Structure.poolPuts.length ≥ 30 := by
  decide +kernel

theorem gen_covers : Covers Gen.astSchema Gen.poolSites := poolOffenders_nil gen_pool_ok

/-- **C09 (cleanliness clause)** for the code as extracted today -/
theorem pooled_nodes_clean (ops : List Op) (st : State) (hi : Inv st)
    (hw : ∀ site n, Op.put site n ∈ ops → WellTyped Gen.astSchema n) :
    ∀ n ∈ (run Gen.astSchema Gen.poolSites st ops).2, n.Clean :=
  (clean_invariant gen_covers ops st hi hw).2

/-- over every history, from every pool content: one node per `get`, of the type asked for -/
theorem pooled_nodes_typed (ops : List Op) (st : State) :
    (run Gen.astSchema Gen.poolSites st ops).2.map (·.ty) = askedTypes ops := run_types _ _ ops st

/-- a taken entry leaves the pool: what remains, with it, is a rearrangement of what was there -/
theorem pool_entry_handed_out_once {ty : String} {st rest : State} {n : PNode} (h : takeTy ty st = some (n, rest)) :
    n.ty = ty ∧ (n :: rest).Perm st := ⟨takeTy_ty h, takeTy_perm h⟩

theorem pool_growth (ops : List Op) (st : State) :
    (run Gen.astSchema Gen.poolSites st ops).1.length ≤ st.length + puts ops := run_length_le _ _ ops st

/-- non-vacuity: a fully dirty SelectStatement released through PutSelectStatement and taken again is clean,
    and the table really contains that site -/
example : (Gen.poolSites.find? (fun e => e.1 == "PutSelectStatement")).isSome = true := by decide +kernel

def dirtySelect : PNode :=
  { ty := "SelectStatement", fields := (Schema.fieldNames Gen.astSchema "SelectStatement").map fun f => (f, true) }

example : (run Gen.astSchema Gen.poolSites [] [.put "PutSelectStatement" dirtySelect, .get "SelectStatement"]).2
    = [fresh Gen.astSchema "SelectStatement"] := by decide +kernel

/-- a table that forgets one field is rejected by the check, with the field as the offender
    (sensitivity of the obligation) -/
example : poolOffenders [("T", true, [("A", "string", "other", false), ("B", "Expression", "iface", false)])]
    [("PutT", "T", ["A"])] = [("PutT", "B")] := by decide

end GoSQLXModel.Props.C09
