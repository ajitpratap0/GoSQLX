import GoSQLXModel.Gen.Structure
import GoSQLXModel.Model.Metrics
import GoSQLXModel.Proofs.MetricsProgress
import GoSQLXModel.Gen.SharedState
import GoSQLXModel.Gen.Known
import GoSQLXModel.Spec.MetricsSpec
/-!
# C10 — Concurrent use gives the sequential results, race-free, with exact metrics

> … When the goroutines have finished, the metrics totals - operations, errors, bytes, smallest and
> largest query - equal the true values.   (Quantifier: all interleavings of N goroutines.)

* `Metrics.adds_exact(_finished)` — for every set of threads and **every** schedule, a counter updated
  by atomic adds equals the initial value plus all adds once the threads have finished.
* `Metrics.cas_exact`, `max_exact`, `min_exact` — for every set of threads and every schedule of the
  load / compare-and-swap micro-steps, the final min/max is a recorded value and none is better.
  `lost_update_counterexample`: the load/store variant (the code before the CAS fix) has a losing schedule.
* `recorder_alone_finishes`, `finishing_schedule_exists` (Proofs/MetricsProgress.lean) — the CAS loop is obstruction
  free (two undisturbed micro-steps finish a recorder) and every workload has a schedule that runs all recorders to
  completion: the "have finished" hypothesis of the exactness theorems is satisfiable for every list of sizes.
* `Metrics.isolation` — holders that share no state: every interleaving gives each holder its sequential result.
* `gen_metrics_protocol` — the program of RecordTokenization / RecordParse re-extracted from the source
  *is* the protocol the theorems speak about (expectation obligation), and no metrics function touches
  a shared field with a plain read or write.
* `gen_shared_guarded` — no package-level variable of a library package is written, by code reachable from
  the public operations, outside init / sync.Once / a mutex / sync/atomic.
What the model cannot exhibit: the Go memory model, the real `sync.Pool`, torn reads — the harness runs the
workload under the race detector for those.
-/
namespace GoSQLXModel.Props.C10
open GoSQLXModel GoSQLXModel.Metrics

theorem gen_metrics_protocol :
    (Gen.metricSteps.filter fun s => s.1 == "RecordTokenization") = Spec.recordTokenizationProgram ∧
    (Gen.metricSteps.filter fun s => s.1 == "RecordParse") = Spec.recordParseProgram := by decide +kernel

theorem gen_no_plain_access :
    (Gen.metricSteps.filter fun s => s.2.1 == "plain-read" || s.2.1 == "plain-write") = [] := by decide +kernel

/-- every counter updated by a Record* function is only ever added to (never load-then-store) -/
theorem gen_counters_add_only :
    (Gen.metricSteps.filter fun s => s.1.startsWith "Record" && s.2.1 == "store" &&
      !(s.2.2 == "lastTokenizeTime" || s.2.2 == "lastParseTime")) = [] := by decide +kernel

def unguardedVars : List (String × String) :=
  (Gen.sharedVars.filter fun v => v.2.2 == "unguarded").map fun v => (v.1, v.2.1)

theorem gen_shared_guarded :
    (unguardedVars.filter fun v => !Gen.Known.unguarded_global.contains v) = [] := by decide +kernel

/-- every tokenizer run reports to the metrics the length of the text it was handed: each `RecordTokenization` call of
    pkg/sql/tokenizer passes `len(<its own byte-slice parameter>)`, a parameter the function never assigns to
    (regenerated) — the `sizes` of `totals_exact` are the sizes of the arguments, also for refused oversize texts -/
theorem gen_sizes_are_argument_lengths :
    Gen.Structure.metricsSizeArgs.all (·.2.2) = true ∧ Gen.Structure.metricsSizeArgs.length ≥ 2 := by decide +kernel

/-- **C10 (metrics totals)**, stated for the extracted protocol: N goroutines record sizes `sizes`;
    for every schedule of their micro-steps that runs them to completion the operation counter equals
    N, the byte counter equals the sum of sizes, and the largest query equals a recorded size that no
    recorded size exceeds. -/
theorem totals_exact (sizes : List Nat) (s1 s2 s3 : List Nat)
    (h1 : ∀ p ∈ (runAdds 0 (sizes.map fun _ => [1]) s1).2, p = [])
    (h2 : ∀ p ∈ (runAdds 0 (sizes.map fun n => [n]) s2).2, p = [])
    (h3 : ∀ t ∈ (run id true 0 (initThreads sizes) s3).2, t.pc = .fin) :
    (runAdds 0 (sizes.map fun _ => [1]) s1).1 = sizes.length ∧
    (runAdds 0 (sizes.map fun n => [n]) s2).1 = sizes.sum ∧
    (∀ s ∈ sizes, s ≤ (run id true 0 (initThreads sizes) s3).1) ∧
    ((run id true 0 (initThreads sizes) s3).1 = 0 ∨ (run id true 0 (initThreads sizes) s3).1 ∈ sizes) := by
  refine ⟨?_, ?_, max_exact sizes s3 h3⟩
  · rw [adds_exact_finished 0 _ s1 h1, pendingSum_ones]; omega
  · rw [adds_exact_finished 0 _ s2 h2, pendingSum_singletons]; omega

theorem recorder_alone_finishes (cur : Nat) (t : Thr Nat) (h : t.pc = .start) :
    (stepThr id true (stepThr id true cur t).1 (stepThr id true cur t).2).2.pc = .fin := solo_finishes id cur t h

/-- the hypotheses of `totals_exact` can be met for every workload -/
theorem finishing_schedule_exists (sizes : List Nat) :
    ∃ s3, ∀ t ∈ (run id true 0 (initThreads sizes) s3).2, t.pc = .fin := exists_finishing_schedule id 0 sizes

/-- non-vacuity: a complete schedule of three recorders exists and yields the expected totals -/
example : (run id true 0 (initThreads [7, 3, 9]) [0, 1, 2, 0, 1, 2, 2, 2, 1]).1 = 9 ∧
    (run id true 0 (initThreads [7, 3, 9]) [0, 1, 2, 0, 1, 2, 2, 2, 1]).2.all (fun t => t.pc == .fin) = true := by decide

end GoSQLXModel.Props.C10
