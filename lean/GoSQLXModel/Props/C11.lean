import GoSQLXModel.Model.ErrChain
import GoSQLXModel.Proofs.CancelPrompt
import GoSQLXModel.Gen.ErrorSites
import GoSQLXModel.Gen.Structure
/-!
# C11 — Cancellation is honoured promptly, reported as such, and leaves no residue

> If the context is already done, or becomes done at any moment during tokenizing or parsing, the
> call returns no tree and an error that matches the context's error under errors.Is …

Static half (this file):
* `ErrChain.is_preserved` — every stack of chain-keeping layers keeps the context error reachable;
  `ErrChain.flatten_loses_ctx` — one flattening frame loses it for good.
* `gen_ctx_sites_keep_chain` — every site that returns the error of a polled context returns it
  directly or through `%w` (table re-extracted from today's source).
* `gen_catch_all_present` — ParseContext re-polls the context when a statement fails and returns
  the `%w`-wrapped context error, so the ~20 flattening re-wraps inside the expression/CTE/sub-query
  parsers cannot hide a cancellation.
* `cancel_reported` — the model of the return path: whatever the inner parsers did to the error
  (flatten or keep), the value ParseContext returns under a done context matches the context error,
  and so does the value after the gosqlx `%w` wrappers.
* `cancellation_seen_at_first_poll`, `result_means_context_unseen` (Proofs/CancelPrompt.lean) — over the model of
  the ParseContext loop (any token stream, statement oracle, polls per statement, firing pattern): a `cancelled j`
  outcome means poll `j` saw the context done and no earlier poll of the call did — nothing is polled or parsed after
  the first observation — and a returned result is exactly `Parse`'s: a context that fires between or after the
  call's polls is invisible.
The dynamic half (every poll index k, both causes, reuse afterwards, poll counts) runs on the real code.
-/
namespace GoSQLXModel.Props.C11
open GoSQLXModel GoSQLXModel.ErrChain

theorem gen_ctx_sites_keep_chain :
    (Gen.ctxSites.filter fun s => !(s.2.2.1 == "direct" || s.2.2.1 == "wrapW")) = [] := by decide +kernel

theorem gen_catch_all_present :
    (Gen.ctxSites.any fun s => s.2.1 == "Parser.ParseContext" && s.2.2.2 && (s.2.2.1 == "wrapW" || s.2.2.1 == "direct")) = true := by
  decide +kernel

/-- poll sites exist where the property says they do (expectation obligation) -/
theorem gen_poll_sites_expected :
    (["Tokenizer.TokenizeContext", "Parser.parseExpression", "Parser.ParseContext", "Parser.parseStatement", "ParseWithContext"].all
      fun f => Gen.ctxSites.any fun s => s.2.1 == f) = true := by decide +kernel

/-- a context that is done before the call is refused whatever the text: the three entry points that do work of their
    own begin with a poll of the context that returns its error, and every other exported function that takes a
    context hands it on without looping itself (regenerated from the source) -/
theorem gen_entry_polls_first :
    (["sql/tokenizer:Tokenizer.TokenizeContext", "sql/parser:Parser.ParseContext", "gosqlx:ParseWithContext"].all
      fun f => Gen.Structure.ctxEntries.any fun e => e.1 == f && e.2 == "poll-first") = true ∧
    (Gen.Structure.ctxEntries.filter fun e => !(e.2 == "poll-first" || e.2 == "delegates")) = [] := by decide +kernel

theorem cancellation_seen_at_first_poll (I : Loops.Input) (strict : Bool) (fires : Nat → Bool) (polls : Nat → Nat)
    (f k pos : Nat) (acc : List Nat) (j : Nat)
    (h : Loops.parseContextLoop I strict fires polls f k pos acc = some (.cancelled j)) :
    k ≤ j ∧ fires j = true ∧ ∀ i, k ≤ i → i < j → fires i = false :=
  Loops.cancelled_at_first_firing_poll I strict fires polls f k pos acc j h

theorem result_means_context_unseen (I : Loops.Input) (strict : Bool) (fires : Nat → Bool) (polls : Nat → Nat)
    (f k pos : Nat) (acc : List Nat) (r : Loops.Res)
    (h : Loops.parseContextLoop I strict fires polls f k pos acc = some (.done r)) :
    Loops.parseLoop I strict f pos acc = some r := Loops.done_means_parse I strict fires polls f k pos acc r h

/-- non-vacuity: three statements of two inner polls each; a context done from poll 4 on is reported at poll 4
    (inside the second statement), one done from poll 9 on is never seen (the call makes polls 0 … 8) -/
def threeStmts : Loops.Input :=
  { kind := fun i => if i % 2 = 1 ∧ i < 6 then .semi else if i ≥ 6 then .eof else .start, n := 7,
    stmt := fun p => { ok := true, stop := p + 1, code := 0 } }
example : Loops.parseContextLoop threeStmts false (fun k => decide (k ≥ 4)) (fun _ => 2) 9 0 0 [] = some (.cancelled 4) := by
  decide
example : Loops.parseContextLoop threeStmts false (fun k => decide (k ≥ 9)) (fun _ => 2) 9 0 0 []
    = some (.done (.ok [0, 2, 4])) := by decide

/-- what an inner parser frame may do to an error on its way up -/
inductive Frame where
  | keep (l : Layer)          -- `%w`, WrapError or pass-through
  | flat (msg : String)       -- InvalidSyntaxError(fmt.Sprintf("…%v", err)) : chain dropped
  deriving Repr

def Frame.apply : Frame → Err → Err
  | .keep l, e => l.apply e
  | .flat m, e => flatten m e

/-- `ParseContext` with its catch-all (the `ctx.Err()` test after a failed `parseStatement`): on a statement error,
    if the context is done, return the wrapped context error; otherwise the statement's error unchanged -/
def parseContextReturn (ctxDone : Option Bool) (stmtErr : Err) : Err :=
  match ctxDone with
  | some d => .wrapW "parsing cancelled" (.ctx d)
  | none => stmtErr

/-- **C11 (reported as such)** — for every stack of inner frames (flattening or not, any depth) above
    the poll site that observed the context, and every stack of `%w` wrappers below the public API,
    the error matches the context's error. -/
theorem cancel_reported (frames : List Frame) (outer : List Layer) (d : Bool) :
    errIs (applyLayers outer (parseContextReturn (some d)
      (frames.foldr Frame.apply (.wrapW "parsing cancelled" (.ctx d))))) (.ctx d) = true :=
  errIs_layers outer (by simp [parseContextReturn, errIs])

/-- without the catch-all a single flattening frame loses the cancellation (the defect repaired by
    the catch-all fix; kept as the counterexample that shows the catch-all is what carries the theorem) -/
theorem flatten_without_catch_all_counterexample :
    errIs (applyLayers [.w "parsing failed"] (Frame.apply (.flat "failed to parse IN subquery")
      (.wrapW "parsing cancelled" (.ctx false)))) (.ctx false) = false := by decide

/-- a context that never fires: ParseContext returns the statement error unchanged -/
theorem never_fires_transparent (e : Err) : parseContextReturn none e = e := rfl

end GoSQLXModel.Props.C11
