import GoSQLXModel.Model.Segments
import GoSQLXModel.Proofs.RecoveryPositions
import GoSQLXModel.Gen.Structure
/-!
# C12 — Recovery parsing terminates, agrees with strict parsing, loses no good statement

> Recovery-mode parsing terminates on every input and … reports at least one error exactly when strict
> parsing of the same input fails.  For input made of semicolon-separated statements, it returns precisely
> the trees strict parsing gives for the well-formed ones, in order, and one error per malformed one, each
> error naming a token inside its own statement.

All three clauses are theorems about the recovery loop over an arbitrary statement oracle satisfying the
frame assumptions (`fa2`: never moves backwards, `fa3`: success consumes); the assumptions and the
segment hypotheses are decidable and are checked on every generated case against the real
parseStatement (hook `VerifStmtAt`).
`reported_positions_are_tokens_in_order` (Proofs/RecoveryPositions.lean) holds without the segment hypotheses, for
every input and fuel: returned statements and reported errors are strictly increasing positions of real tokens, and
no position is both a statement and an error (nothing is reported twice, nothing points past the input).
-/
namespace GoSQLXModel.Props.C12
open GoSQLXModel GoSQLXModel.Loops

/-- Obligation on the regenerated facts of `isStatementStartingKeyword` (pkg/sql/parser/recovery.go): the test is a
    switch on the current token's *type* over exactly these seventeen keyword types and reads, calls and looks up
    nothing else — so a string literal, a quoted name or an identifier is never a synchronisation point, whatever it
    spells. This is the `start` predicate the recovery model is instantiated with; the harness quantifies its scripts
    with the same set, decided from token types alone, and compares the two on every token. -/
theorem gen_start_keyword_by_type :
    Gen.Structure.recoveryStartTypes = ["Alter", "Begin", "Commit", "Create", "Delete", "Drop", "Grant", "Insert", "Merge",
      "Refresh", "Revoke", "Rollback", "Select", "Set", "Truncate", "Update", "With"] ∧
    Gen.Structure.recoveryStartOther = [] := by decide +kernel

theorem recovery_terminates (I : Input) (hF : Frame I) : ∃ r, recLoop I (I.n + 2) 0 [] [] = some r :=
  recover_terminates I hF [] []

theorem strict_terminates (I : Input) (hF : Frame I) (strict : Bool) : ∃ r, parseLoop I strict (I.n + 2) 0 [] = some r :=
  parseLoop_total I hF strict _ _ _ (by omega) (by omega)

theorem recovery_iff_ok (I : Input) (f : Nat) (l : List Nat) (h : parseLoop I false f 0 [] = some (.ok l)) :
    recLoop I f 0 [] [] = some (l, []) := recovery_no_error_of_parse_ok I f l h

theorem recovery_iff_err (I : Input) (f c p : Nat) (h : parseLoop I false f 0 [] = some (.err c p))
    (hm : more I p = true) (f' : Nat) (r) (hr : recLoop I f' 0 [] [] = some r) : r.2 ≠ [] :=
  recovery_error_of_parse_err I f c p h hm f' r hr

theorem reported_positions_are_tokens_in_order (I : Input) (hF : Frame I) (f : Nat) (r : List Nat × List Nat)
    (h : recLoop I f 0 [] [] = some r) :
    r.1.Pairwise (· < ·) ∧ r.2.Pairwise (· < ·) ∧ (∀ x ∈ r.1, x < I.n) ∧ (∀ x ∈ r.2, x < I.n) ∧ ∀ x ∈ r.1, x ∉ r.2 :=
  recovery_positions I hF f r h

/-- the third clause from position 0: on a script of segments (`Chain`, Model/Segments.lean) the statements returned are
    the starts of the good segments, the errors reported the starts of the bad ones -/
theorem segments (I : Input) (segs : List Seg) (hc : Chain I 0 segs) :
    recLoop I (I.n + 2) 0 [] [] =
      some ((segs.filter (·.good)).map (·.start), (segs.filter (fun s => !s.good)).map (·.start)) := by
  simpa using recovery_segments I segs 0 (I.n + 2) [] [] hc (by omega) (by omega)

/-- non-vacuity: three segments good ; bad ; good -/
def demo : Input :=
  { kind := fun i => if i = 2 ∨ i = 5 ∨ i = 8 then .semi else if i ≥ 9 then .eof else if i = 0 ∨ i = 3 ∨ i = 6 then .start else .other,
    n := 10,
    stmt := fun p => if p = 3 then { ok := false, stop := 4, code := 2002 } else { ok := true, stop := p + 2, code := 0 } }

example : Chain demo 0 [⟨0, 2, true⟩, ⟨3, 5, false⟩, ⟨6, 8, true⟩] := by
  refine ⟨rfl, ?_, rfl, ?_, rfl, ?_, by show more demo 9 = false; decide⟩
  · refine ⟨by decide, by decide, by decide, ⟨by decide, by decide⟩, ?_, by decide⟩
    intro j h1 h2; have : j = 1 := by simp at h1 h2; omega
    subst this; decide
  · refine ⟨by decide, by decide, by decide, ⟨by decide, by decide⟩, ?_, by decide⟩
    intro j h1 h2; have : j = 4 := by simp at h1 h2; omega
    subst this; decide
  · refine ⟨by decide, by decide, by decide, ⟨by decide, by decide⟩, ?_, by decide⟩
    intro j h1 h2; have : j = 7 := by simp at h1 h2; omega
    subst this; decide

example : recLoop demo 12 0 [] [] = some ([0, 6], [3]) := by decide

/-- what the segment hypothesis excludes, exhibited: a failing statement that swallows its own semicolon
    takes the next (good) statement with it (the `INTERVAL n ;` shape) -/
def swallow : Input :=
  { kind := fun i => if i = 2 ∨ i = 5 then .semi else if i ≥ 6 then .eof else if i = 0 ∨ i = 3 then .start else .other,
    n := 7,
    stmt := fun p => if p = 0 then { ok := false, stop := 3, code := 2002 } else { ok := true, stop := p + 2, code := 0 } }

theorem swallowed_semicolon_counterexample : recLoop swallow 9 0 [] [] = some ([3], [0]) ∧
    parseLoop swallow false 9 3 [] = some (.ok [3]) := by decide

/-- known finding `recovery-partial-statement`: a malformed segment whose prefix is a complete statement
    (parseStatement succeeds and stops *inside* the segment, e.g. `DELETE FROM t WHERE (a) (b) ;`) is
    neither good nor bad in the sense of `SegOK`; recovery then returns a tree for the prefix in addition
    to the error for the rest -/
def partialPrefix : Input :=
  { kind := fun i => if i = 4 ∨ i = 7 then .semi else if i ≥ 8 then .eof else if i = 0 ∨ i = 5 then .start else .other,
    n := 9,
    stmt := fun p => if p = 0 then { ok := true, stop := 2, code := 0 }
                     else if p = 2 then { ok := false, stop := 2, code := 2002 }
                     else { ok := true, stop := p + 2, code := 0 } }

theorem partial_prefix_counterexample : recLoop partialPrefix 11 0 [] [] = some ([0, 5], [2]) := by decide

end GoSQLXModel.Props.C12
