import GoSQLXModel.Model.ErrChain
import GoSQLXModel.Proofs.ErrChainLaws
import GoSQLXModel.Gen.ErrorSites
import GoSQLXModel.Spec.ErrorSites
import GoSQLXModel.Gen.ParserInstance
import GoSQLXModel.Proofs.Depth
/-!
# C13 — Every failure is a structured, classifiable, reproducible error

> Every error returned by tokenizing, parsing or validating exposes, through standard unwrapping, a
> structured error with a documented code of the right family … and wrapped causes remain
> reachable with errors.Is/errors.As.

* `ErrChain.as_some` / `as_reaches` / `is_preserved`: for every stack of chain-keeping wrapper layers
  (any length) over a structured error, errors.As finds a structured error and errors.Is finds every
  wrapped cause.
* `is_means_member_of_unwrap_chain`, `is_transitive`, `as_is_first_code_of_chain`, `code_seen_through_layers`
  (Proofs/ErrChainLaws.lean): errors.Is finds exactly the members of the (finite) chain that repeated `Unwrap()`
  exposes, hence is transitive; errors.As returns the code of the first structured error of that chain; through any
  stack of layers the caller sees the code of the outermost `WrapError` layer, or — under `%w` / ParseError layers
  only — exactly the code of the wrapped error.
* `gen_sites_structured`: on the table re-extracted from today's source, every reachable error
  construction site in tokenizer/parser/gosqlx is a structured builder or a `%w` layer; no bare
  `fmt.Errorf`/`errors.New` and no `%v`-flattening `fmt.Errorf` reaches a caller (modulo the
  hand-listed unreachable sites).
* `gen_families`: tokenizer sites carry E1xxx codes, parser sites E2xxx codes, all documented.
* `gen_gosqlx_wraps`: the convenience wrappers only add `%w` layers.
* "The same input always produces the same code": the one piece of parser state that survives a failed parse on a reused
  parser and decides an error code is the recursion-depth counter (E2007 when it passes 100). `Model/Depth.lean`: call
  trees whose counting calls lower the counter with `defer`; `depth_restored_after_any_parse` /
  `depth_restored_after_any_history`: after any call tree — failing anywhere, at any nesting — and after any sequence
  of them the counter is what it was; `gen_depth_sites_deferred`: on today's source every `depth++` is immediately
  followed by the deferred `depth--`; `inline_decrement_leaks`: the inline shape leaks, and 34 such statements pass the
  limit. The harness reads the real counter after every run of failures (hook `VerifDepth`).
-/
namespace GoSQLXModel.Props.C13
open GoSQLXModel GoSQLXModel.ErrChain

abbrev Site := String × String × String × String × Bool × String

def Site.pkg (s : Site) := s.1
def Site.fn (s : Site) := s.2.1
def Site.kind (s : Site) := s.2.2.1
def Site.code (s : Site) := s.2.2.2.1
def Site.reachable (s : Site) := s.2.2.2.2.1
def Site.msg (s : Site) := s.2.2.2.2.2

def allowed (s : Site) : Bool :=
  Spec.unreachableSites.any fun a => a.1 == s.pkg && a.2.1 == s.fn && (a.2.2 == "" || a.2.2 == s.msg)

/-- reachable sites that hand an unstructured error to a caller -/
def unstructuredOffenders (sites : List Site) : List Site :=
  sites.filter fun s => s.reachable && !allowed s &&
    (s.kind == "bare" || s.kind == "flatten" || s.kind == "sentinel" || s.kind == "wrapW-foreign")

/-- reachable builder sites whose code is undocumented or of the wrong family for the package -/
def familyOffenders (sites : List Site) : List Site :=
  sites.filter fun s => s.reachable && !allowed s && (s.kind == "builder" || s.kind == "builder-flatten") &&
    !(Spec.documentedCodes.contains s.code &&
      (if s.pkg == "pkg/sql/tokenizer" then s.code.startsWith "E1"
       else if s.pkg == "pkg/sql/parser" then s.code.startsWith "E2"
       else true))

theorem gen_sites_structured : unstructuredOffenders Gen.errorSites = [] := by decide +kernel
theorem gen_families : familyOffenders Gen.errorSites = [] := by decide +kernel

/-- the gosqlx convenience layer constructs no error of its own: it only wraps with %w -/
theorem gen_gosqlx_wraps :
    (Gen.errorSites.filter fun s => s.1 == "pkg/gosqlx" && !(s.2.2.1 == "wrapW" || s.2.2.1 == "wrapW-ctx")) = [] := by
  decide +kernel

/-- **C13 (classification)**: whatever `%w` / ParseError layers the entry points add, errors.As reaches the
    structured error a builder site produced, with that site's code -/
theorem structured_error_reachable (ls : List Layer) (code : String)
    (hw : ∀ l ∈ ls, match l with | .cause _ => False | _ => True) :
    errAs (applyLayers ls (.structured code)) = some code := as_reaches ls code hw

/-- **C13 (causes)**: a wrapped cause stays reachable with errors.Is through every chain-keeping layer -/
theorem cause_reachable (ls : List Layer) (cause : Err) : errIs (applyLayers ls cause) cause = true :=
  is_preserved ls cause

/-- non-vacuity: two `%w` layers over a parser error (gosqlx.ParseMultiple adds `query %d: parsing failed: %w`) -/
example : errAs (applyLayers [.w "query 2", .w "parsing failed"] (.structured "E2002")) = some "E2002" := by decide
example : (Gen.errorSites.filter fun s => s.2.2.1 == "builder").length > 40 := by decide +kernel

/-- sensitivity: a bare error introduced in a reachable parser function is an offender, and the model
    shows errors.As then finds nothing -/
example : unstructuredOffenders [("pkg/sql/parser", "Parser.parseSelectStatement", "bare", "", true, "invalid %s value %q")]
    = [("pkg/sql/parser", "Parser.parseSelectStatement", "bare", "", true, "invalid %s value %q")] := by decide
theorem bare_error_counterexample : errAs (applyLayers [.w "parsing failed"] (.bare "invalid LIMIT value")) = none := by decide


/-- every `p.depth++` of pkg/sql/parser is immediately followed by `defer func() { p.depth-- }()` (regenerated) -/
theorem gen_depth_sites_deferred : Gen.parserDepthIncs.all (·.2) = true ∧ Gen.parserDepthIncs.length ≥ 3 := by decide +kernel

/-- with `defer` at every counting call, one parse — succeeding or failing anywhere — leaves the counter as it was -/
theorem depth_restored_after_any_parse (c : Depth.Call) (d : Nat) (h : c.allDeferred = true) : (Depth.runCall c d).1 = d :=
  Depth.runCall_restores c d h

/-- … and so does any history of parses on one parser -/
theorem depth_restored_after_any_history (cs : List Depth.Call) (d : Nat) (h : ∀ c ∈ cs, c.allDeferred = true) :
    cs.foldl (fun d c => (Depth.runCall c d).1) d = d := Depth.runs_restore cs d h

/-- the inline decrement skipped by the failure path leaks one level per counting call on the way out -/
theorem inline_decrement_leaks : Depth.runCall Depth.leaky 0 = (3, false) ∧
    (List.replicate 34 Depth.leaky).foldl (fun d c => (Depth.runCall c d).1) 0 = 102 :=
  ⟨Depth.inline_decrement_leaks, Depth.leaks_accumulate⟩

theorem is_means_member_of_unwrap_chain (e t : Err) : errIs e t = true ↔ t ∈ chain e := errIs_iff_mem_chain e t

theorem is_transitive (e m t : Err) (h1 : errIs e m = true) (h2 : errIs m t = true) : errIs e t = true :=
  errIs_trans e m t h1 h2

theorem as_is_first_code_of_chain (e : Err) : errAs e = (chain e).findSome? codeOf := errAs_eq_first_code e

theorem code_seen_through_layers (ls : List Layer) (e : Err) :
    errAs (applyLayers ls e) = (ls.findSome? layerCode).or (errAs e) := errAs_layers ls e

/-- non-vacuity: gosqlx `%w` over a ParseError over a parser error (E2001) that WrapError built around a context error -/
example : chain (.wrapW "parse" (.parseError 3 (.caused "E2001" (.ctx true)))) =
      [.wrapW "parse" (.parseError 3 (.caused "E2001" (.ctx true))), .parseError 3 (.caused "E2001" (.ctx true)),
       .caused "E2001" (.ctx true), .ctx true] ∧
    errAs (.wrapW "parse" (.parseError 3 (.caused "E2001" (.ctx true)))) = some "E2001" ∧
    errIs (.wrapW "parse" (.parseError 3 (.caused "E2001" (.ctx true)))) (.ctx true) = true := by decide

end GoSQLXModel.Props.C13
