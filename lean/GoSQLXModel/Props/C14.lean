import GoSQLXModel.Model.WalkVals
import GoSQLXModel.Model.Tables
import GoSQLXModel.Gen.AstTables
import GoSQLXModel.Gen.Produced
import GoSQLXModel.Gen.Known
import GoSQLXModel.Gen.Structure
/-!
# C14 — Tree traversal reaches every node of every tree

> Walking a parsed tree with the visitor or inspection API visits every statement, clause and
> expression node that is part of the tree - everything reachable through the tree's own fields -
> and nothing that is not part of it, for every tree the parser can produce.

* `Val.walk_complete` / `Val.walk_sound` (Model/WalkVals.lean): for every tree whose node fields are
  covered by the Children() table, the visit sequence equals the pre-order list of all reachable
  nodes; and for every table the visit sequence is a sublist of it (nothing synthesised).
* `gen_children_complete_partial`: on the tables extracted from today's source, every node-holding
  field of every node type the parser constructs is mentioned by that type's Children(), except the
  listed known findings (allowance obligation: offenders ⊆ known).
* `windowFrame_counterexample`: the model exhibits the known finding.
-/
namespace GoSQLXModel.Props.C14
open GoSQLXModel

/-- offenders among the (type, field) pairs pkg/sql/parser can populate: the type is constructed by
    the parser and the field is assigned somewhere in pkg/sql/parser ("every tree the parser can produce") -/
def producedOffenders : List (String × String) :=
  (childOffenders Gen.astSchema Gen.childrenTable).filter fun o =>
    Gen.producedTypes.contains o.1 && Gen.parserAssigned.contains o

/-- full statement (false today because of WindowFrame; kept visible) -/
def gen_children_complete_full : Prop := producedOffenders = []

/-- allowance obligation: every offender is a listed known finding -/
def unlistedOffenders : List (String × String) :=
  producedOffenders.filter fun o => !Gen.Known.children_missing.contains o

theorem gen_children_complete_partial : unlistedOffenders = [] := by decide +kernel

/-- the walk over the extracted table -/
def genTable : ChildTable := fun ty => ChildrenTbl.get Gen.childrenTable ty

/-- no `Children()` method hands out the address of a range variable (all such children would be one object) -/
theorem gen_children_no_range_address : Gen.Structure.childrenRangeAddr = [] := by decide +kernel

/-- **C14** for every tree covered by today's table: visit sequence = reachable nodes -/
theorem walk_visits_exactly (v : Val) (h : v.covered genTable none = true) : v.walk genTable none = v.nodes :=
  Val.walk_complete genTable none v h

theorem walk_visits_only_tree_nodes (v : Val) : (v.walk genTable none).Sublist v.nodes :=
  Val.walk_sound genTable none v

/-- non-vacuity: a SELECT with a WHERE comparison is covered and all 5 nodes are visited -/
def sampleSelect : Val :=
  .node "SelectStatement" (.cons "Columns" (.list (.cons (.node "Identifier" (.cons "Name" (.str "a") .nil)) .nil))
    (.cons "Where" (.node "BinaryExpression"
      (.cons "Left" (.node "Identifier" (.cons "Name" (.str "a") .nil))
      (.cons "Right" (.node "LiteralValue" (.cons "Value" (.str "1") .nil)) .nil))) .nil))

example : sampleSelect.covered genTable none = true := by decide +kernel
example : sampleSelect.walk genTable none =
    ["SelectStatement", "Identifier", "BinaryExpression", "Identifier", "LiteralValue"] := by decide +kernel

/-- dotted paths: the WHERE of ON CONFLICT DO UPDATE sits in the by-value helper struct `Action` -/
def onConflictVal : Val :=
  .node "OnConflict" (.cons "Target" (.list .nil)
    (.cons "Action" (.struct (.cons "DoNothing" (.bool false) (.cons "DoUpdate" (.list .nil)
      (.cons "Where" (.node "BinaryExpression" (.cons "Operator" (.str "=") .nil)) .nil)))) .nil))

example : onConflictVal.walk genTable none = ["OnConflict", "BinaryExpression"] ∧
    onConflictVal.covered genTable none = true := by decide +kernel

/-- known finding, exhibited by the model: a frame bound with an offset expression is part of the
    tree but never visited -/
def frameVal : Val :=
  .node "WindowFrame" (.cons "Type" (.str "ROWS")
    (.cons "Start" (.node "WindowFrameBound" (.cons "Type" (.str "PRECEDING")
      (.cons "Value" (.node "LiteralValue" (.cons "Value" (.str "2") .nil)) .nil))) .nil))

theorem windowFrame_counterexample :
    frameVal.walk genTable none = ["WindowFrame"] ∧
    frameVal.nodes = ["WindowFrame", "WindowFrameBound", "LiteralValue"] := by decide +kernel

end GoSQLXModel.Props.C14
