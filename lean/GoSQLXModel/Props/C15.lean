import GoSQLXModel.Model.ExtractGen
import GoSQLXModel.Gen.Produced
import GoSQLXModel.Gen.Known
import GoSQLXModel.Proofs.StringEq
/-!
# C15 — Extracted tables, columns and functions are exactly those referenced

> For every parsed statement the extracted table set equals the set of names written in table positions anywhere in
> it (…) and likewise the column and function sets equal the column references and function calls written. Aliases,
> internally synthesised names, string contents and keywords never appear, results are duplicate-free, and they do
> not depend on layout or on the order of clauses.

The five collectors are *regenerated* from extract.go (`Gen/ExtractTables.lean`: per type-switch case the fields
recorded, the guard text, the starts and the followed fields of the explicit expression walk, and whether the
Children() recursion closes the function) and run by `Extract.mkCollector`.

* `Extract.Collector.run_exact` / `mkCollector_exact` (Model/Extract.lean): for every tree covered by the Children()
  table the result is, as a set, `⋃ { records at n | n node of the tree }` — every position, every nesting depth; and
  `run_sound` without any hypothesis: never a name that no node of the tree records.
* obligations on today's tables: the recursion through Children() is present in all five; what the expression walk
  records at a node type the node-level case records too (the hypothesis of exactness; false for ExtractFunctions
  before the repair); the table collectors read exactly the table positions of the AST — never `JoinClause.Left`
  (the synthetic `(x_with_n_joins)` name) nor any `Alias`; every TableReference-typed field of a parser-built node is
  either such a position or that known non-position; columns are the `Identifier` names, functions the `FunctionCall`
  names, with the documented guards.
* Coverage of parser-built trees is C14's obligation; its known findings (WindowFrame bounds) are exactly the positions
  these theorems do not reach (`frame_bound_counterexample`), listed as known findings of C15 too.
-/
namespace GoSQLXModel.Props.C15
open GoSQLXModel GoSQLXModel.Extract

/-- each collectFromNode ends by recursing into Children() -/
theorem gen_recurses :
    Gen.Extract.tableCollector_recurses = true ∧ Gen.Extract.qualifiedTableCollector_recurses = true ∧
    Gen.Extract.columnCollector_recurses = true ∧ Gen.Extract.qualifiedColumnCollector_recurses = true ∧
    Gen.Extract.functionCollector_recurses = true := by decide +kernel

/-- the explicit expression walk records nothing the node-level case of the same type does not record -/
theorem gen_expr_covered :
    exprRecordsCovered Gen.Extract.tableCollector_node Gen.Extract.tableCollector_expr = true ∧
    exprRecordsCovered Gen.Extract.qualifiedTableCollector_node Gen.Extract.qualifiedTableCollector_expr = true ∧
    exprRecordsCovered Gen.Extract.columnCollector_node Gen.Extract.columnCollector_expr = true ∧
    exprRecordsCovered Gen.Extract.qualifiedColumnCollector_node Gen.Extract.qualifiedColumnCollector_expr = true ∧
    exprRecordsCovered Gen.Extract.functionCollector_node Gen.Extract.functionCollector_expr = true := by
  decide +kernel

/-- the table positions of the AST: FROM items, join right sides, DML targets, USING, MERGE target and source -/
def tablePositions : List (String × List (List String)) :=
  [("SelectStatement", [["From", "Name"], ["Joins", "Right", "Name"]]),
   ("InsertStatement", [["TableName"]]),
   ("UpdateStatement", [["TableName"], ["From", "Name"]]),
   ("MergeStatement", [["TargetTable", "Name"], ["SourceTable", "Name"]]),
   ("DeleteStatement", [["TableName"], ["Using", "Name"]])]

def readsOf (cases : List Case) : List (String × List (List String)) :=
  cases.map fun c => (c.1, c.2.1.flatMap id)

/-- both table collectors read exactly the table positions (so: never JoinClause.Left, never an Alias), each
    under a non-empty guard -/
theorem gen_table_reads :
    readsOf Gen.Extract.tableCollector_node = tablePositions ∧
    readsOf Gen.Extract.qualifiedTableCollector_node = tablePositions ∧
    (Gen.Extract.tableCollector_node.all fun c => c.2.2.1.all fun g => g.endsWith " != \"\"") = true ∧
    (Gen.Extract.qualifiedTableCollector_node.all fun c => c.2.2.1.all fun g => g.endsWith " != \"\"") = true := by
  decide +kernel

/-- TableReference-typed fields of node types the parser builds -/
def trefFields : List (String × String) :=
  Gen.astSchema.flatMap fun (ty, _, fs) =>
    if Gen.producedTypes.contains ty then
      (fs.filter fun f => f.2.1 == "TableReference").map fun f => (ty, f.1)
    else []

/-- every such field is a table position, except the join's left side (it repeats the FROM item or carries the
    synthetic name) -/
theorem gen_tref_fields_classified :
    (trefFields.all fun tf =>
      tf == ("JoinClause", "Left") ||
      (tf.1 == "JoinClause" && tf.2 == "Right") ||
      tablePositions.any fun p => p.1 == tf.1 && p.2.any fun path => path.head? == some tf.2) = true := by
  simp only [trefFields, List.contains_eq_any_beq, String.beq_size_first]
  decide +kernel

/-- columns are Identifier names (not `*`), functions are FunctionCall names, with the documented guards -/
theorem gen_name_records :
    ((Gen.Extract.columnCollector_node.filter fun c => !c.2.1.isEmpty) ==
      [("Identifier", [[["Name"]]], ["n.Name != \"\" && n.Name != \"*\""], [])]) = true ∧
    ((Gen.Extract.qualifiedColumnCollector_node.filter fun c => !c.2.1.isEmpty) ==
      [("Identifier", [[["Table"], ["Name"]]], ["n.Name != \"\" && n.Name != \"*\""], [])]) = true ∧
    ((Gen.Extract.functionCollector_node.filter fun c => !c.2.1.isEmpty) ==
      [("FunctionCall", [[["Name"]]], ["n.Name != \"\""], [])]) = true := by decide +kernel

/-- **C15 (tables)**: for every covered tree, exactly the names at table positions of its nodes -/
theorem tables_exact (tree : Val) (hcov : tree.covered genChildren none = true) (x : List String) :
    x ∈ extractTables tree ↔ x ∈ tree.nodeVals.flatMap (recordsAt Gen.Extract.tableCollector_node guardNonEmpty) :=
  mkCollector_exact _ _ _ _ genChildren tree gen_expr_covered.1 hcov x

theorem tables_qualified_exact (tree : Val) (hcov : tree.covered genChildren none = true) (x : List String) :
    x ∈ extractTablesQualified tree ↔
      ∃ y ∈ tree.nodeVals.flatMap (recordsAt Gen.Extract.qualifiedTableCollector_node guardNonEmpty),
        splitQualified (y.headD "") = x := by
  simp only [extractTablesQualified, mem_dedup, List.mem_map, qtablesC,
    mkCollector_exact _ _ _ _ genChildren tree gen_expr_covered.2.1 hcov]

/-- **C15 (columns)** -/
theorem columns_exact (tree : Val) (hcov : tree.covered genChildren none = true) (x : List String) :
    x ∈ extractColumns tree ↔ x ∈ tree.nodeVals.flatMap (recordsAt Gen.Extract.columnCollector_node guardColumn) :=
  mkCollector_exact _ _ _ _ genChildren tree gen_expr_covered.2.2.1 hcov x

theorem columns_qualified_exact (tree : Val) (hcov : tree.covered genChildren none = true) (x : List String) :
    x ∈ extractColumnsQualified tree ↔
      x ∈ tree.nodeVals.flatMap (recordsAt Gen.Extract.qualifiedColumnCollector_node guardColumn) :=
  mkCollector_exact _ _ _ _ genChildren tree gen_expr_covered.2.2.2.1 hcov x

/-- **C15 (functions)** -/
theorem functions_exact (tree : Val) (hcov : tree.covered genChildren none = true) (x : List String) :
    x ∈ extractFunctions tree ↔ x ∈ tree.nodeVals.flatMap (recordsAt Gen.Extract.functionCollector_node guardNonEmpty) :=
  mkCollector_exact _ _ _ _ genChildren tree gen_expr_covered.2.2.2.2 hcov x

/-- **C15 (nothing extra)**, for every tree, covered or not: a reported name is recorded at some node of the tree -/
theorem nothing_extra (tree : Val) :
    (∀ x ∈ extractTables tree, x ∈ tree.nodeVals.flatMap (recordsAt Gen.Extract.tableCollector_node guardNonEmpty)) ∧
    (∀ x ∈ extractColumns tree, x ∈ tree.nodeVals.flatMap (recordsAt Gen.Extract.columnCollector_node guardColumn)) ∧
    (∀ x ∈ extractFunctions tree, x ∈ tree.nodeVals.flatMap (recordsAt Gen.Extract.functionCollector_node guardNonEmpty)) :=
  ⟨mkCollector_sound _ _ _ _ genChildren tree gen_expr_covered.1,
   mkCollector_sound _ _ _ _ genChildren tree gen_expr_covered.2.2.1,
   mkCollector_sound _ _ _ _ genChildren tree gen_expr_covered.2.2.2.2⟩

/-- **C15 (duplicate-free)** -/
theorem results_nodup (tree : Val) :
    (extractTables tree).Nodup ∧ (extractTablesQualified tree).Nodup ∧ (extractColumns tree).Nodup ∧
    (extractColumnsQualified tree).Nodup ∧ (extractFunctions tree).Nodup :=
  ⟨nodup_dedup _, nodup_dedup _, nodup_dedup _, nodup_dedup _, nodup_dedup _⟩

/-- a column is recorded only at Identifier nodes, a function only at FunctionCall nodes -/
theorem column_records_only_at_identifiers (ty : String) (fs : Fields) (h : ty ≠ "Identifier") :
    recordsAt Gen.Extract.columnCollector_node guardColumn (.node ty fs) = [] := by
  simp [recordsAt, Gen.Extract.columnCollector_node, isNodeTy, h]

theorem function_records_only_at_calls (ty : String) (fs : Fields) (h : ty ≠ "FunctionCall") :
    recordsAt Gen.Extract.functionCollector_node guardNonEmpty (.node ty fs) = [] := by
  simp [recordsAt, Gen.Extract.functionCollector_node, isNodeTy, h]

def ident (n : String) : Val := .node "Identifier" (.cons "Table" (.str "") (.cons "Name" (.str n) .nil))
def tref (n al : String) : Val := .node "TableReference" (.cons "Name" (.str n) (.cons "Alias" (.str al) (.cons "Subquery" .nil .nil)))
def call (name : String) (args : Vals) : Val :=
  .node "FunctionCall" (.cons "Name" (.str name) (.cons "Arguments" (.list args) (.cons "Filter" .nil .nil)))

/-- SELECT a FROM t x JOIN s.u ON f(b) = 'lit' — with the synthetic left name the parser plants -/
def joined : Val :=
  .node "SelectStatement"
    (.cons "Columns" (.list (.cons (ident "a") .nil))
    (.cons "From" (.list (.cons (tref "t" "x") .nil))
    (.cons "Joins" (.list (.cons (.node "JoinClause"
        (.cons "Type" (.str "INNER")
        (.cons "Left" (tref "(t_with_1_joins)" "")
        (.cons "Right" (tref "s.u" "")
        (.cons "Condition" (.node "BinaryExpression"
          (.cons "Left" (call "f" (.cons (ident "b") .nil))
          (.cons "Operator" (.str "=")
          (.cons "Right" (.node "LiteralValue" (.cons "Value" (.str "lit") .nil)) .nil)))) .nil))))) .nil)) .nil)))

example : joined.covered genChildren none = true := by decide +kernel
example : extractTables joined = [["t"], ["s.u"]] ∧ extractColumns joined = [["a"], ["b"]] ∧
    extractFunctions joined = [["f"]] := by decide +kernel

/-- the C14 known finding, seen from extraction: a call in a frame bound is recorded by a node of the tree but is not
    extracted (the tree is not covered) -/
def framed : Val :=
  .node "WindowSpec" (.cons "FrameClause" (.node "WindowFrame" (.cons "Type" (.str "ROWS")
    (.cons "Start" (.node "WindowFrameBound" (.cons "Type" (.str "PRECEDING")
      (.cons "Value" (call "g" .nil) .nil))) (.cons "End" .nil .nil)))) .nil)

theorem frame_bound_counterexample :
    framed.covered genChildren none = false ∧ extractFunctions framed = [] ∧
    framed.nodeVals.flatMap (recordsAt Gen.Extract.functionCollector_node guardNonEmpty) = [["g"]] := by
  decide +kernel

end GoSQLXModel.Props.C15
