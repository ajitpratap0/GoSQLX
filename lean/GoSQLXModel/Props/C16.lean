import GoSQLXModel.Model.Scan
import GoSQLXModel.Proofs.ScanThreshold
import GoSQLXModel.Props.C14
import GoSQLXModel.Gen.ScanTables
/-!
# C16 — Injection findings are context-closed, layout-invariant and self-consistent

> Each documented injection payload - tautologies such as 1=1 or 'a'='a', time-delay and dangerous function calls,
> UNION probing with NULL columns or system tables - is reported with its documented class and severity when it is the
> WHERE condition of a top-level statement, and equally wherever it occurs as a condition or call in that or any nested
> statement, regardless of letter case, whitespace or redundant parentheses. Raising the minimum severity removes
> exactly the findings below it, the total and per-severity counts always equal the findings listed, and scanning
> neither modifies the tree nor depends on previous scans.

* `Scan.context_closed` (Model/Scan.lean), instantiated here at the scanner's traversal (`genScanChildren`: the
  Children() table plus the explicit descents of the scanner's callback) and the name tables extracted from today's
  source: for every tree covered by that table, a payload node anywhere in the tree contributes its findings.  That
  every node-holding field the parser can populate is in the table is `gen_scan_traversal_complete` (the explicit
  descents close C14's known findings for WindowFrame bounds).
* `Scan.threshold`, `Scan.counts_consistent`: threshold filtering and counters, for every tree.
* `threshold_only_removes`, `nothing_below_threshold`, `threshold_applied_twice`, `counters_below_threshold_zero`
  (Proofs/ScanThreshold.lean): raising the threshold yields a sublist — same order, nothing added — of the result
  under any lower one; no reported finding ranks below the threshold; filtering a result again equals scanning with
  the higher threshold; the counter of every severity below the threshold is zero.
* table obligations (regenerated): the node types the Inspect callback dispatches on are the ones the model
  checks, the callback never prunes, every `Finding` literal of the checks has the documented (pattern, severity)
  and is appended under `shouldInclude`, `severityOrder` is strictly LOW < MEDIUM < HIGH < CRITICAL, and the
  documented function names are present in the tables.
-/
namespace GoSQLXModel.Props.C16
open GoSQLXModel GoSQLXModel.Scan

def genCfg : Cfg :=
  { timeFuncs := Gen.Scan.timeBasedFuncs, dangerousFuncs := Gen.Scan.dangerousFuncs,
    sysPrefixes := Gen.Scan.systemTablePrefixes, sysNames := Gen.Scan.systemTableNames }

/-- the scanner's traversal: today's Children() table plus the explicit descents of its callback -/
def genScanChildren : ChildrenTbl := scanChildren Gen.childrenTable Gen.Scan.extraDescents
def genTable : ChildTable := fun ty => ChildrenTbl.get genScanChildren ty

/-- the callback dispatches on exactly the node kinds `findingsAt` inspects, and always descends -/
theorem gen_dispatch : Gen.Scan.dispatch = ["BinaryExpression", "FunctionCall", "SetOperation", "WindowFrame"] ∧
    Gen.Scan.descends = true := by decide +kernel

/-- each explicit descent `e.<head>.<rest>` enters a Node-typed field whose only node-holding field is `<rest>` -/
def descentOk (ty : String) (d : String × String) : Bool :=
  match (Schema.fieldsOf Gen.astSchema ty).find? (fun f => f.1 == d.1) with
  | some (_, elem, _, _) =>
    Schema.isNode Gen.astSchema elem &&
    ((Schema.fieldsOf Gen.astSchema elem).filter (Schema.nodeHolding Gen.astSchema (Gen.astSchema.length + 1))).all (·.1 == d.2)
  | none => false

theorem gen_extra_descents_cover :
    (Gen.Scan.extraDescents.all fun e => e.2.all (descentOk e.1)) = true := by decide +kernel

/-- offenders of the *scanner's* traversal among the (type, field) pairs the parser can populate -/
def scanOffenders : List (String × String) :=
  (childOffenders Gen.astSchema genScanChildren).filter fun o =>
    Gen.producedTypes.contains o.1 && Gen.parserAssigned.contains o

/-- **full coverage, no allowance**: every node-holding field the parser can populate is reached by the scanner
    (the C14 known findings for WindowFrame are closed by the explicit descents) -/
theorem gen_scan_traversal_complete : scanOffenders = [] := by
  refine List.eq_nil_iff_forall_not_mem.2 fun (ty, f) h => ?_
  obtain ⟨hs, hp⟩ := List.mem_filter.1 h
  -- the scanner's table only adds to Children(), so an offender here is one there, hence one of C14's known findings …
  have hk : (ty, f) ∈ Gen.Known.children_missing := by
    simpa using List.filter_eq_nil_iff.1 C14.gen_children_complete_partial (ty, f)
      (List.mem_filter.2 ⟨childOffenders_mono (get_scanChildren _ _) hs, hp⟩)
  -- … and those are the fields the explicit descents enter
  have hd : ∀ o ∈ Gen.Known.children_missing, o.2 ∈ genScanChildren.get o.1 := by decide +kernel
  exact (mem_childOffenders.1 hs).1 (hd _ hk)

/-- the Finding literals of the four checks: documented class and severity, each appended under the threshold test -/
theorem gen_sites : Gen.Scan.sites =
    [("checkBinaryExpression", "TAUTOLOGY", "CRITICAL", true),
     ("checkFunctionCall", "TIME_BASED", "HIGH", true),
     ("checkFunctionCall", "OUT_OF_BAND", "CRITICAL", true),
     ("checkOrInjection", "TAUTOLOGY", "CRITICAL", true),
     ("checkOrInjection", "TAUTOLOGY", "CRITICAL", true),
     ("checkUnionInjection", "UNION_BASED", "HIGH", true),
     ("checkUnionInjection", "UNION_BASED", "CRITICAL", true)] := by decide +kernel

/-- severityOrder is the strict chain the model's `Sev.rank` encodes -/
theorem gen_severity_order :
    Gen.Scan.severityOrder.map (·.1) = ["LOW", "MEDIUM", "HIGH", "CRITICAL"] ∧
    (Gen.Scan.severityOrder.map (·.2)).Pairwise (· < ·) := by decide +kernel

/-- the documented time-delay and dangerous functions are in the tables -/
theorem gen_documented_functions :
    (["SLEEP", "PG_SLEEP", "BENCHMARK", "WAITFOR"].all Gen.Scan.timeBasedFuncs.contains) = true ∧
    (["LOAD_FILE", "XP_CMDSHELL", "SP_OACREATE", "UTL_HTTP", "DBMS_LDAP", "EXEC", "SP_EXECUTESQL"].all
        Gen.Scan.dangerousFuncs.contains) = true ∧
    (["information_schema.", "pg_catalog.", "mysql.", "sys.", "sqlite_"].all Gen.Scan.systemTablePrefixes.contains) = true := by
  decide +kernel

/-- **C16 (position-independence)** — any payload node anywhere in a covered tree contributes its findings -/
theorem payload_found_everywhere (cls : CharClass) (min : Sev) (tree payload : Val) (f : Finding)
    (hcov : tree.covered genTable none = true) (hin : payload ∈ tree.nodeVals)
    (hf : f ∈ findingsAt cls genCfg payload) (hs : keep min f = true) :
    f ∈ scan cls genCfg genTable min tree :=
  Scan.context_closed cls genCfg genTable min tree payload f hcov hin hf hs

/-- **C16 (threshold)** -/
theorem threshold_filters (cls : CharClass) (min : Sev) (tree : Val) :
    scan cls genCfg genTable min tree = (scan cls genCfg genTable .low tree).filter (keep min) :=
  Scan.threshold cls genCfg genTable min tree

/-- **C16 (counts)** -/
theorem counts_agree (cls : CharClass) (min : Sev) (tree : Val) :
    let fs := scan cls genCfg genTable min tree
    (counts fs).total = fs.length ∧
    (counts fs).critical + (counts fs).high + (counts fs).medium + (counts fs).low = fs.length :=
  Scan.counts_consistent _

/-- nothing is reported that no visited node produces -/
theorem nothing_invented (cls : CharClass) (min : Sev) (tree : Val) (f : Finding)
    (h : f ∈ scan cls genCfg genTable min tree) : ∃ n ∈ tree.walkVals genTable none, f ∈ findingsAt cls genCfg n :=
  Scan.scan_sound cls genCfg genTable min tree f h

/-! ## the documented payloads produce their documented findings (ASCII classifier) -/

def lit (v : String) : Val := .node "LiteralValue" (.cons "Value" (.str v) (.cons "Type" (.str "int") .nil))
def ident (n : String) : Val := .node "Identifier" (.cons "Name" (.str n) .nil)
def bin (op : String) (l r : Val) : Val :=
  .node "BinaryExpression" (.cons "Left" l (.cons "Operator" (.str op) (.cons "Right" r .nil)))
def call (name : String) (args : Vals) : Val :=
  .node "FunctionCall" (.cons "Name" (.str name) (.cons "Arguments" (.list args) .nil))

theorem payload_tautology : findingsAt .ascii genCfg (bin "=" (lit "1") (lit "1")) = [⟨"TAUTOLOGY", .critical⟩] := by
  decide +kernel
theorem payload_ident_tautology : findingsAt .ascii genCfg (bin "=" (ident "x") (ident "x")) = [⟨"TAUTOLOGY", .critical⟩] := by
  decide +kernel
theorem payload_or_tautology :
    findingsAt .ascii genCfg (bin "or" (bin "=" (ident "id") (lit "5")) (bin "=" (lit "1") (lit "1"))) =
      [⟨"TAUTOLOGY", .critical⟩] := by decide +kernel
theorem payload_sleep : findingsAt .ascii genCfg (call "pg_sleep" (.cons (lit "5") .nil)) = [⟨"TIME_BASED", .high⟩] := by
  decide +kernel
theorem payload_dangerous : findingsAt .ascii genCfg (call "Xp_CmdShell" .nil) = [⟨"OUT_OF_BAND", .critical⟩] := by
  decide +kernel
theorem payload_union_null :
    findingsAt .ascii genCfg (.node "SetOperation" (.cons "Operator" (.str "UNION")
      (.cons "Right" (.node "SelectStatement" (.cons "Columns" (.list (.cons
        (.node "LiteralValue" (.cons "Value" .nil (.cons "Type" (.str "null") .nil)))
        (.cons (.node "LiteralValue" (.cons "Value" .nil (.cons "Type" (.str "null") .nil))) .nil))) .nil)) .nil))) =
      [⟨"UNION_BASED", .high⟩] := by decide +kernel
theorem benign_silent : findingsAt .ascii genCfg (bin "=" (ident "c") (lit "4")) = [] := by decide +kernel

def framed : Val :=
  .node "WindowSpec" (.cons "FrameClause" (.node "WindowFrame" (.cons "Type" (.str "ROWS")
    (.cons "Start" (.node "WindowFrameBound" (.cons "Type" (.str "PRECEDING")
      (.cons "Value" (call "SLEEP" (.cons (lit "5") .nil)) .nil))) (.cons "End" .nil .nil)))) .nil)
example : framed.covered genTable none = true ∧
    scan .ascii genCfg genTable .high framed = [⟨"TIME_BASED", .high⟩] := by decide +kernel

/-- non-vacuity: a tautology inside an EXISTS sub-query of a HAVING clause, found with its severity at every
    threshold (the tree is covered by today's table) -/
def nested : Val :=
  .node "SelectStatement" (.cons "Having" (.node "ExistsExpression" (.cons "Subquery"
    (.node "SelectStatement" (.cons "Where" (bin "=" (lit "1") (lit "1")) .nil)) .nil)) .nil)

example : nested.covered genTable none = true := by decide +kernel
example : scan .ascii genCfg genTable .critical nested = [⟨"TAUTOLOGY", .critical⟩] := by decide +kernel

theorem threshold_only_removes (cls : CharClass) (a b : Sev) (tree : Val) (h : a.rank ≤ b.rank) :
    (scan cls genCfg genTable b tree).Sublist (scan cls genCfg genTable a tree) := threshold_mono cls genCfg genTable a b tree h

theorem nothing_below_threshold (cls : CharClass) (min : Sev) (tree : Val) :
    ∀ f ∈ scan cls genCfg genTable min tree, min.rank ≤ f.sev.rank := scan_min_rank cls genCfg genTable min tree

theorem threshold_applied_twice (cls : CharClass) (a b : Sev) (tree : Val) (h : a.rank ≤ b.rank) :
    (scan cls genCfg genTable a tree).filter (keep b) = scan cls genCfg genTable b tree :=
  threshold_twice cls genCfg genTable a b tree h

theorem counters_below_threshold_zero (cls : CharClass) (min s : Sev) (tree : Val) (h : s.rank < min.rank) :
    ((scan cls genCfg genTable min tree).filter (·.sev == s)).length = 0 :=
  counts_below_zero cls genCfg genTable min s tree h

end GoSQLXModel.Props.C16
