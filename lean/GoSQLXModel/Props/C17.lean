import GoSQLXModel.Proofs.LintOnlyBlanks
import GoSQLXModel.Proofs.LexGenBytes
import GoSQLXModel.Proofs.LintL003
import GoSQLXModel.Proofs.LintLex2
import GoSQLXModel.Model.LexGen
/-!
# C17 — Linter flags exactly what it names; text rewriters keep meaning and converge

> Applying lint auto-fixes … yields text whose token sequence equals the original's except for the letter
> case of unquoted keywords … Applying the same fixes again changes nothing and re-linting reports no
> remaining violation of a rule whose fix was applied.

The five `Fix` functions are modelled statement by statement (`Model/Lint.lean`) and tied to the code by
byte-exact correspondence on every generated text.  Proved for **all** texts:
* `fixL003_idempotent` (`Proofs/LintL003.lean`) — the blank-line fixer converges, for every classifier and every limit:
  after its first pass no run of blank lines exceeds the limit, so the trailing loop and a second pass change nothing;
* `fixL001_idempotent`, `fixL010_idempotent` — the fixers converge (via the generic
  `map_fix_idempotent`: a per-line rewriter that introduces no line feed and is idempotent on lines makes an
  idempotent fixer; `split_join` / `join_split` are the Go `strings.Split`/`Join` round trips);
  `fixL002_idempotent` — from the one-pass form `expC` of L002, which is idempotent from either state;
* `fixL001_relint_clean` — after L001 no line ends in a blank;
* `fixL010_local` — the rewriter leaves every stretch it regards as quoted byte-identical (`quotedOf`).
* `whitespace_fixers_touch_only_blanks`, `whitespace_fixers_only_delete` (from `Lint.fixL001_keeps_nonblanks`,
  `Lint.fixL001_sublist` and so on in `Proofs/LintOnlyBlanks.lean`) — for **every** text, tame or not: the sequence of
  characters other than space and tab (line feeds included) is the same after L001, L002 and L010 as before, and L001 /
  L010 output is a subsequence of the input (they only delete).  So no fixer adds, drops or reorders a character of a
  word, number, operator, quote or comment marker, or changes the line structure; what remains for the token level is
  only *which blanks* go.
* `l001_keeps_tokens` (`Lex.fixL001_keeps_tokens` of `Proofs/LintLex.lean`, at today's tables) — **the trailing-whitespace
  fixer against the tokenizer model**: for every *tame* text of C04's reference grammar (every lexeme on one line,
  comments on one line, a line comment not ending in a blank, blank runs written as one piece — any length, any mix of
  words, two-word keywords, numbers, operators, literals, quoted identifiers, comments), the fixed text is read by the
  tokenizer as the same sequence of (kind, value) pairs and the same comments.  The fixer without lines
  (`fixL001_eq_trimC`) is, over bytes, a rewriter of blank runs (`relayout_trimB`; `Proofs/LintLayout.lean`); every such
  rewriter keeps the tokens of a tame text (`Relayout.keeps_tokens`).
* `l002_keeps_tokens` (`Lex.fixL002_keeps_tokens` of `Proofs/LintLex2.lean`) — the same for the mixed-indentation fixer
  (`fixL002_eq_expC`, `relayout_expB`); `l001_then_l002_keep_tokens`: rewriters of blank runs compose (`Relayout.comp`),
  so the two fixers in the CLI's order keep the tokens.
That the tokens are kept on *all* texts is *not* provable: it is false for the
code as written whenever the fixers' per-line quote scan disagrees with the lexer (multi-line literals,
quotes in comments, backtick / dollar quoting) — `multiline_literal_counterexample` etc. exhibit that on the
model; those shapes are the listed known findings, and on texts without them the oracle demands exact
preservation.  L007 convergence is decided by the oracle only (partial).
-/
namespace GoSQLXModel.Props.C17
open GoSQLXModel GoSQLXModel.Lint

theorem fixL001_idempotent (s : List Char) : fixL001 (fixL001 s) = fixL001 s :=
  map_fix_idempotent trimRight trimRight_no_nl trimRight_idem s

theorem fixL002_idempotent (s : List Char) : fixL002 (fixL002 s) = fixL002 s := by
  rw [(fixL002_eq_expC s).1, (fixL002_eq_expC _).1, expC_idem]

theorem fixL003_idempotent (cls : CharClass) (max : Nat) (s : List Char) :
    fixL003 cls max (fixL003 cls max s) = fixL003 cls max s :=
  Lint.fixL003_idempotent cls max s

example : fixL003 .ascii 1 "a\n\n\n \n\nb\n\n\n".toList = "a\n\nb\n".toList := by decide +kernel

theorem fixL010_idempotent (s : List Char) : fixL010 (fixL010 s) = fixL010 s :=
  map_fix_idempotent fixLineL010 fixLineL010_no_nl fixLineL010_idem s

/-- after L001 every line of the text ends in a non-blank character (or is empty) -/
theorem fixL001_relint_clean (s : List Char) :
    ∀ l ∈ splitLines (fixL001 s), ∀ c, l.getLast? = some c → isBlankChar c = false := by
  intro l hl c hc
  rw [fixL001, splitLines_mapLines trimRight trimRight_no_nl] at hl
  obtain ⟨l0, _, rfl⟩ := List.mem_map.mp hl
  exact trimRight_last l0 c hc

/-- L010 leaves as it was what its own quote scan takes for the inside of a literal, which need not be what the tokenizer
    takes for one (the counterexamples below) -/
theorem fixL010_local (l : List Char) (inS : Bool) (q : Char) (prev : Bool) :
    quotedOf inS q (collapseGo inS q prev l) = quotedOf inS q l := collapseGo_quoted l inS q prev

/-- L010 rewrites line by line, so the number of lines stays (L001 and L002 are of the same form; L003 drops lines) -/
theorem fixL010_line_count (s : List Char) : (splitLines (fixL010 s)).length = (splitLines s).length := by
  rw [fixL010, splitLines_mapLines fixLineL010 fixLineL010_no_nl, List.length_map]

/-- no operator of today's table contains a blank or a line end (side condition of `l001_keeps_tokens`) -/
theorem gen_ops_no_ws : Lex.opsNoWS Lex.genLexTables = true := by rw [Lex.genLexTables_eq]; decide +kernel

/-- **C17 (L001 keeps the tokens)** at today's tables, for every classifier that treats ASCII as the reference surface
    assumes (the Go classifier does: `Props.C04.go_class_ascii_ok`) -/
theorem l001_keeps_tokens (cls : CharClass) (hA : Lex.AsciiOK cls) (lead : List Lex.Piece) (items : List Lex.Item2)
    (hlead : lead.all Lex.Piece.ok = true) (hleadT : lead.all Lex.Piece.tame = true) (hleadN : Lex.sepNorm lead = true)
    (hok : Lex.seqOK cls Lex.genLexTables items = true) (htame : Lex.tameSeq cls Lex.genLexTables items = true)
    (hsize : (Lex.sepBytes lead ++ Lex.flat2 items).length ≤ Lex.genLexTables.maxInput)
    (hcount : items.length ≤ Lex.genLexTables.maxTokens) :
    ∃ toks cs toks' cs', Lex.tokenize cls Lex.genLexTables (Lex.sepBytes lead ++ Lex.flat2 items) = .ok toks cs ∧
      Lex.tokenize cls Lex.genLexTables (Lex.asBytes (fixL001 (Lex.asChars (Lex.sepBytes lead ++ Lex.flat2 items)))) = .ok toks' cs' ∧
      toks'.map Lex.Tok.key = toks.map Lex.Tok.key ∧ cs'.map Lex.Comment.key = cs.map Lex.Comment.key :=
  Lex.fixL001_keeps_tokens cls Lex.genLexTables hA gen_ops_no_ws lead items hlead hleadT hleadN hok htame hsize hcount

/-- **C17 (L002 keeps the tokens)** -/
theorem l002_keeps_tokens (cls : CharClass) (hA : Lex.AsciiOK cls) (lead : List Lex.Piece) (items : List Lex.Item2)
    (hlead : lead.all Lex.Piece.ok = true) (hleadT : lead.all Lex.Piece.tame = true)
    (hok : Lex.seqOK cls Lex.genLexTables items = true) (htame : Lex.tameSeq cls Lex.genLexTables items = true)
    (hsize : 4 * (Lex.sepBytes lead ++ Lex.flat2 items).length ≤ Lex.genLexTables.maxInput)
    (hcount : items.length ≤ Lex.genLexTables.maxTokens) :
    ∃ toks cs toks' cs', Lex.tokenize cls Lex.genLexTables (Lex.sepBytes lead ++ Lex.flat2 items) = .ok toks cs ∧
      Lex.tokenize cls Lex.genLexTables (Lex.asBytes (fixL002 (Lex.asChars (Lex.sepBytes lead ++ Lex.flat2 items)))) = .ok toks' cs' ∧
      toks'.map Lex.Tok.key = toks.map Lex.Tok.key ∧ cs'.map Lex.Comment.key = cs.map Lex.Comment.key :=
  Lex.fixL002_keeps_tokens cls Lex.genLexTables hA gen_ops_no_ws lead items hlead hleadT hok htame hsize hcount

/-- **C17 (the first two fixers in the CLI's order keep the tokens)** -/
theorem l001_then_l002_keep_tokens (cls : CharClass) (hA : Lex.AsciiOK cls) (lead : List Lex.Piece) (items : List Lex.Item2)
    (hlead : lead.all Lex.Piece.ok = true) (hleadT : lead.all Lex.Piece.tame = true) (hleadN : Lex.sepNorm lead = true)
    (hok : Lex.seqOK cls Lex.genLexTables items = true) (htame : Lex.tameSeq cls Lex.genLexTables items = true)
    (hsize : 4 * (Lex.sepBytes lead ++ Lex.flat2 items).length ≤ Lex.genLexTables.maxInput)
    (hcount : items.length ≤ Lex.genLexTables.maxTokens) :
    ∃ toks cs toks' cs', Lex.tokenize cls Lex.genLexTables (Lex.sepBytes lead ++ Lex.flat2 items) = .ok toks cs ∧
      Lex.tokenize cls Lex.genLexTables (Lex.asBytes (fixL002 (fixL001 (Lex.asChars (Lex.sepBytes lead ++ Lex.flat2 items))))) = .ok toks' cs' ∧
      toks'.map Lex.Tok.key = toks.map Lex.Tok.key ∧ cs'.map Lex.Comment.key = cs.map Lex.Comment.key :=
  Lex.fixL001_then_L002_keeps_tokens cls Lex.genLexTables hA gen_ops_no_ws lead items hlead hleadT hleadN hok htame hsize hcount

/-- non-vacuity: a text with trailing blanks after code, after a literal that contains blanks, on a blank line and at the
    end; the fixer changes it, the hypotheses hold -/
def l001Lead : List Lex.Piece := [.blanks [32, 32, 10]]
def l001Items : List Lex.Item2 :=
  [(.word (Lex.strBytes "select"), [.blanks [32, 32]]), (.str [.ch 97, .ch 32, .ch 32], [.blanks [32, 9, 10, 32, 10, 32, 32]]),
   (.word (Lex.strBytes "from"), [.blanks [32]]), (.word (Lex.strBytes "t"), [.blanks [32], .line (Lex.strBytes " c"), .blanks [32, 32]]),
   (.op [59], [.blanks [9, 32]])]
example : l001Lead.all Lex.Piece.ok = true ∧ l001Lead.all Lex.Piece.tame = true ∧ Lex.sepNorm l001Lead = true ∧
    Lex.seqOK .ascii Lex.genLexTables l001Items = true ∧ Lex.tameSeq .ascii Lex.genLexTables l001Items = true := by
  rw [Lex.genLexTables_eq]; decide +kernel
example : Lex.sepBytes l001Lead ++ Lex.flat2 l001Items = Lex.strBytes "  
select  'a  ' 	
 
  from t -- c
  ;	 " := by decide +kernel
example : Lex.asBytes (fixL001 (Lex.asChars (Lex.sepBytes l001Lead ++ Lex.flat2 l001Items))) =
    Lex.strBytes "
select  'a  '

  from t -- c
  ;" := by decide +kernel

example : Lex.asBytes (fixL002 (Lex.asChars (Lex.sepBytes l001Lead ++ Lex.flat2 l001Items))) =
    Lex.strBytes "  \nselect  'a  ' \t\n \n  from t -- c\n  ;\t " := by decide +kernel
example : Lex.asBytes (fixL002 (Lex.asChars (Lex.strBytes "\t a\tb\n \t\tc"))) = Lex.strBytes "     a\tb\n         c" := by decide +kernel

example : fixL010 "a  b   'c  d'  e".toList = "a b 'c  d' e".toList := by decide +kernel
example : fixL001 "a \t\nb  ".toList = "a\nb".toList := by decide +kernel
example : fixL002 "\t x\n  y".toList = "     x\n  y".toList := by decide +kernel

/-- known-finding shape: a literal that spans lines is rewritten because the quote state restarts per line -/
theorem multiline_literal_counterexample :
    fixL010 "x = 'a\nb  c'".toList = "x = 'a\nb c'".toList ∧
    fixL001 "x = 'a \nb'".toList = "x = 'a\nb'".toList ∧
    fixL007 CharClass.ascii ["SELECT".toList] true "x = 'a\nselect'".toList = "x = 'a\nSELECT'".toList := by decide +kernel

/-- known-finding shape: a quote inside a block comment flips the state for the rest of the line -/
theorem quote_in_comment_counterexample :
    fixL010 "/* it's */ 'a  b'  x".toList = "/* it's */ 'a b'  x".toList := by decide +kernel

theorem whitespace_fixers_touch_only_blanks (s : List Char) :
    (fixL001 s).filter nonBlank = s.filter nonBlank ∧ (fixL002 s).filter nonBlank = s.filter nonBlank ∧
    (fixL010 s).filter nonBlank = s.filter nonBlank :=
  ⟨fixL001_keeps_nonblanks s, fixL002_keeps_nonblanks s, fixL010_keeps_nonblanks s⟩

theorem whitespace_fixers_only_delete (s : List Char) : (fixL001 s).Sublist s ∧ (fixL010 s).Sublist s :=
  ⟨fixL001_sublist s, fixL010_sublist s⟩

/-- non-vacuity: blanks go, everything else (quotes, line feeds, comment markers) stays in order -/
example : (fixL010 "a  b -- c  d \n 'x  y'  z".toList).filter nonBlank = "ab--cd\n'xy'z".toList := by decide +kernel

end GoSQLXModel.Props.C17
