import GoSQLXModel.Model.Fs
import GoSQLXModel.Proofs.FsMulti
import GoSQLXModel.Gen.FsCalls
/-!
# C19 — CLI verdicts match the library; files are never left half-written

> … In-place rewriting replaces a file only when processing of that file succeeded, and if the process is
> interrupted or a write fails after any number of bytes, the file on disk holds either the complete
> original or the complete new content.   (Quantifier: a write failure injected at every byte offset.)

* `Fs.atomic_replace_safe` — for the temp-file + rename protocol, for **every** crash point (after any
  operation; inside the write after any number of bytes) the target holds the old or the new content;
  `Fs.truncate_write_unsafe` — truncate-then-write (os.WriteFile on the original path) has a crash point that
  leaves neither.
* `gen_inplace_sites_atomic`, `gen_protocol_expected` — on the call sites re-extracted from cmd/gosqlx/cmd:
  the two in-place writers (`format -i`, `lint --auto-fix`) go through `replaceFileAtomically`, no
  `os.WriteFile` is applied to an input path, and the success path of `replaceFileAtomically` is the protocol
  the theorem speaks about (Stat, CreateTemp, Name, Write, Sync, Close, Chmod, Rename).
* verdict logic: `validate_exit_iff`, `check_exit_iff` — exit status 0 iff every input is accepted (and, for
  `format --check`, unchanged by formatting).
`all_files_old_or_new`, `other_paths_untouched` (Proofs/FsMulti.lean) lift the single-file theorem to a run over any
number of files with a crash anywhere in the whole run: every named file holds its complete old or complete new
content, provided the targets are distinct paths and no temporary name is a target; paths that are neither are untouched.
What the model cannot exhibit: the kernel, the real file system, signals — the harness injects a write failure at
byte offsets with RLIMIT_FSIZE and compares exit statuses, reports and file contents with the library.
-/
namespace GoSQLXModel.Props.C19
open GoSQLXModel GoSQLXModel.Fs

/-- the input-path expressions at the in-place write sites -/
def inputPathArgs : List String := ["file", "fileResult.Filename", "filename", "path", "fileResult.Path"]

theorem gen_inplace_sites_atomic :
    (Gen.writeSites.filter fun s => s.2.1 != "replaceFileAtomically" &&
      (s.1 == "Formatter.Format" || s.1 == "lintRun") && inputPathArgs.contains s.2.2) = [] ∧
    Gen.writeSites.contains ("Formatter.Format", "replaceFileAtomically", "file") = true ∧
    Gen.writeSites.contains ("lintRun", "replaceFileAtomically", "fileResult.Filename") = true := by decide +kernel

theorem gen_protocol_expected :
    Gen.atomicProtocol = ["Stat", "CreateTemp", "Name", "Write", "Sync", "Close", "Chmod", "Rename"] := by decide

/-- **C19 (crash safety)** for the extracted protocol -/
theorem inplace_write_safe (d : Disk) (target tmp : String) (new : Bytes) (hne : tmp ≠ target) :
    ∀ s ∈ crashStates d (atomicReplace target tmp new), s target = d target ∨ s target = some new :=
  atomic_replace_safe d target tmp new hne

theorem inplace_write_completes (d : Disk) (target tmp : String) (new : Bytes) (hne : tmp ≠ target) :
    run d (atomicReplace target tmp new) target = some new := (atomic_replace_done d target tmp new hne).1

/-- **C19 (crash safety) for a whole command line**: any number of files, crash at any point of the run -/
theorem all_files_old_or_new (js : List Job) (d : Disk) (hnd : (js.map (·.target)).Nodup)
    (htmp : ∀ j ∈ js, ∀ j' ∈ js, j.tmp ≠ j'.target) :
    ∀ s ∈ crashStates d (jobsOps js), ∀ j ∈ js, s j.target = d j.target ∨ s j.target = some j.new :=
  multi_replace_safe js d hnd htmp

theorem other_paths_untouched (js : List Job) (d : Disk) (q : String) (h : ∀ j ∈ js, q ≠ j.target ∧ q ≠ j.tmp) :
    ∀ s ∈ crashStates d (jobsOps js), s q = d q := multi_replace_frame js d q h

/-- non-vacuity: two files, 18 crash states; in each, both files are whole -/
def twoJobs : List Job := [⟨"a.sql", "a.tmp", [7, 8, 9]⟩, ⟨"b.sql", "b.tmp", [5, 6]⟩]
def disk0 : Disk := fun p => if p = "a.sql" then some [1, 2] else if p = "b.sql" then some [3] else none
example : (crashStates disk0 (jobsOps twoJobs)).length = 18 ∧
    ((crashStates disk0 (jobsOps twoJobs)).all fun s =>
      (s "a.sql" == some [1, 2] || s "a.sql" == some [7, 8, 9]) && (s "b.sql" == some [3] || s "b.sql" == some [5, 6])) = true ∧
    ((crashStates disk0 (jobsOps twoJobs)).any fun s => s "a.sql" == some [7, 8, 9] && s "b.sql" == some [3]) = true := by
  decide

/-- the protocol the code used before the repair is unsafe (kept as the counterexample) -/
theorem truncate_write_counterexample (d : Disk) (target : String) (old new : Bytes) (hold : d target = some old)
    (ho : old ≠ []) (hn : new ≠ []) :
    ∃ s ∈ crashStates d (truncateWrite target new), s target ≠ some old ∧ s target ≠ some new :=
  truncate_write_unsafe d target old new hold ho hn

/-- what the CLI knows of one input file when it picks the exit status of `validate` and of `format --check` -/
structure FileOutcome where
  accepted : Bool
  changed : Bool
  deriving Repr

def validateExit (fs : List FileOutcome) : Nat := if fs.any (fun f => !f.accepted) then 1 else 0
def formatCheckExit (fs : List FileOutcome) : Nat := if fs.any (fun f => !f.accepted || f.changed) then 1 else 0

theorem validate_exit_iff (fs : List FileOutcome) : validateExit fs = 0 ↔ ∀ f ∈ fs, f.accepted = true := by
  simp [validateExit]

theorem check_exit_iff (fs : List FileOutcome) :
    formatCheckExit fs = 0 ↔ ∀ f ∈ fs, f.accepted = true ∧ f.changed = false := by
  simp [formatCheckExit]

/-- check modes perform no writing operation, hence change no file -/
theorem check_mode_writes_nothing (d : Disk) (ops : List Op) (h : isReadOnly ops = true) : run d ops = d :=
  read_only_preserves d ops h

/-- non-vacuity: six operations give seven crash points, the one at the three-byte write in four variants -/
example : (crashStates (fun p => if p = "t" then some [1, 2] else none) (atomicReplace "t" "t.tmp" [7, 8, 9])).length = 10 := by decide

end GoSQLXModel.Props.C19
