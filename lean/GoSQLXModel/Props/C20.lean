import GoSQLXModel.Model.PosCache
import GoSQLXModel.Model.LexGen
import GoSQLXModel.Proofs.LexEOF
/-!
# C20 — Processing cost grows near-linearly with input size

> Tokenizing, parsing, serialising and scanning an input of n bytes costs at most on the order of n log n work whatever
> its shape (…). No input within the documented size limit can make a single call take time quadratic in its length.

Cost is a property of the running code; a theorem about the model can only bound what the *modelled algorithm* does.
What is proved (every classifier, table, input):
* `main_loop_iterations` — the tokenizer's main loop runs at most `n + 1` times, because every reader consumes at
  least one byte (`nextToken_progress`) and nothing is consumed twice (the readers hand back a suffix of what they
  were given): the work of the loop is linear plus the work of the readers, each of which scans what it consumes once;
* `tokens_at_most_bytes` (Proofs/LexRun.lean) — an accepted run returns at most one token per input byte plus the
  end marker, so everything downstream that is linear in the token count is linear in `n`;
* `advanceTo_spec`, `runQueries_cost` — the resuming offset → (line, column) conversion is invisible (it computes
  `locOf`) and a non-decreasing sequence of queries — the tokenizer asks for start, end, start, … in source order
  (`tokenize_spans`) — scans each byte at most once: total at most `n`, whatever the number of tokens, lines or
  comments.  This is the mechanism whose earlier rescanning form made the cost quadratic.
**Partial**: the parser, the serialisers and the scanner have no cost model; for them — and for the implementation of
everything above — the decision is the measurement: user CPU time of each entry point on 31 input families at n, 2n,
4n (and 8n on suspicion) in a child process.
-/
namespace GoSQLXModel.Props.C20
open GoSQLXModel GoSQLXModel.Lex

/-- the main loop of the tokenizer needs at most `n + 1` iterations -/
theorem main_loop_iterations (cls : CharClass) (inp : Bytes) :
    lexLoop cls genLexTables inp (inp.length + 1) inp [] [] ≠ .outOfFuel :=
  lexLoop_total cls genLexTables inp _ _ _ _ (by omega)

/-- the number of tokens never exceeds the number of bytes (plus the end marker) -/
theorem tokens_at_most_bytes (cls : CharClass) (inp : Bytes) (out : List Tok) (cms : List Comment)
    (h : tokenize cls genLexTables inp = .ok out cms) : out.length ≤ inp.length + 1 :=
  tokens_le_bytes cls genLexTables inp out cms h

/-- the resuming offset → position conversion computes what the from-scratch one computes -/
theorem cache_invisible (inp : Bytes) (p : PC) (target : Nat) (hp : p.Ok inp) (h1 : p.idx ≤ target)
    (h2 : target ≤ inp.length) : (advanceTo inp p target).Ok inp ∧ (advanceTo inp p target).idx = target :=
  advanceTo_spec inp p target hp h1 h2

/-- **monotone queries scan each byte at most once** -/
theorem position_queries_linear (inp : Bytes) (ts : List Nat) (hb : ∀ t ∈ ts, t ≤ inp.length)
    (hm : List.Pairwise (· ≤ ·) (0 :: ts)) : (runQueries inp PC.start ts).2 ≤ inp.length :=
  (runQueries_cost inp ts PC.start (start_ok inp) hb hm).2

/-- non-vacuity: twelve queries over a three-line input cost its length, not twelve times its length -/
example : (runQueries (strBytes "SELECT a\n, b\nFROM t") PC.start [0, 6, 7, 8, 9, 10, 11, 12, 13, 17, 18, 19]).2 = 19 := by
  decide +kernel

end GoSQLXModel.Props.C20
